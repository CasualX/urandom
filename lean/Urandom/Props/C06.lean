import Urandom.Lemmas.Index
import Urandom.Props.C14
import Urandom.Model.Reservoir
import Mathlib.Algebra.BigOperators.Intervals
import Mathlib.Algebra.Order.BigOperators.Ring.Finset
import Mathlib.Tactic.FieldSimp
import Mathlib.Tactic.Linarith
import Mathlib.Tactic.Positivity
import Mathlib.Algebra.Order.Field.Basic
/-
C06 - index / choose / single pick an existing element, uniformly, None iff empty.

Model: `Urandom.index`, `Urandom.Seq.choose`, `Urandom.Seq.singleExact` (exact-size path of
`Random::single`) and `Urandom.Reservoir.single` (unknown-size path; as translated from the source: `Props/C06T.lean`),
tied to the code by the `index` / `choose` / `single` correspondence streams; `choose` is proved equal to the translated source in
`Props/C04R.lean`.  The reservoir's `chance(1.0 / denom)` is the model's `bernoulli` (one `Float01` of two words compared with `p`,
Model/Standard.lean); what probability that has is C14 (`Props/C14.lean`).  Here: membership and None-iff-empty on the model, and the
arithmetic of the reservoir over abstract replacement probabilities (`reservoir_exact`, `reservoir_fp_bound`).
-/
namespace Urandom.C06
open Urandom.Seq UniformInt

/-- C06: `index(len) < len` for every `len ≥ 1` and every word sequence (any generator) -/
theorem index_lt_len (len : Nat) (h0 : 0 < len) (hl : len < 2 ^ 64) (ws ws' : Words) (k : Nat)
    (h : index len ws = some (k, ws')) : k < len :=
  index_lt len h0 hl ws ws' k h

/-- `index(0)` is the raw word (documented: "an arbitrary value is returned directly from the Rng") -/
theorem index_zero (w : BitVec 64) (ws : Words) : index 0 (w :: ws) = some (w.toNat, ws) := by
  have : wordValue IntTy.usize w % IntTy.usize.M = w.toNat := by
    have h1 : wordValue IntTy.usize w = w.toNat := Nat.mod_eq_of_lt w.isLt
    rw [h1]; exact Nat.mod_eq_of_lt w.isLt
  rw [index, sample_full _ _ rfl, this]

/-- C06, exactly uniform: for `len ≥ 1` every position `m < len` is returned for exactly the `⌊2^64 / len⌋` consecutive words
starting at `lemireStart (2^64) len m` -/
theorem index_uniform (len : Nat) (h0 : 0 < len) (hl : len < 2 ^ 64) (m : Nat) (hm : m < len) :
    ∀ v, v < 2 ^ 64 →
      (iteration IntTy.usize ⟨0, len⟩ len v = .inl m ↔
        (lemireStart (2 ^ 64) len m ≤ v ∧ v < lemireStart (2 ^ 64) len m + 2 ^ 64 / len)) := by
  intro v hv
  have := C04.sample_uniform IntTy.usize usize_valid ⟨0, len⟩ h0 hl (C04.M_pos _) len (Or.inl rfl) m hm v hv
  have e : wadd IntTy.usize.M 0 m = m := by
    unfold wadd; rw [Nat.zero_add]; exact Nat.mod_eq_of_lt (Nat.lt_trans hm hl)
  rw [e] at this
  exact this

/-- C06, `single` with an exact size hint: with a truthful hint, `None` exactly for the empty collection, otherwise the item at
the position `index(len)` returned -/
theorem singleExact_spec (items : List Nat) (hs : items.length < 2 ^ 64) (ws ws' : Words) (r : Option Nat)
    (h : singleExact items.length items ws = some (r, ws')) :
    (r = none ↔ items = []) ∧ (∀ x, r = some x → x ∈ items) := by
  unfold singleExact at h
  split at h
  · simp at h
  · rename_i k ws1 hk
    obtain ⟨rfl, -⟩ := Prod.mk.inj (Option.some.inj h)
    refine ⟨?_, fun x hx => List.mem_of_getElem? hx⟩
    rw [List.getElem?_eq_none_iff, ← List.length_eq_zero_iff]
    refine ⟨fun hle => ?_, fun h0 => by omega⟩
    by_contra h0
    have := index_lt _ (by omega) hs ws ws1 k hk
    omega

/-- `slice.get(index(len))` is `iter.nth(min(len, index(len)))` over the slice's elements: for `len ≥ 1` the index is in bounds,
for `len = 0` both lookups fail -/
theorem choose_eq_singleExact (a : Array Nat) (hs : a.size < 2 ^ 64) (ws : Words) :
    choose a ws = singleExact a.size a.toList ws := by
  unfold choose singleExact
  cases hk : index a.size ws with
  | none => rfl
  | some r =>
    obtain ⟨k, ws'⟩ := r
    by_cases h0 : a.size = 0
    · simp [Array.eq_empty_of_size_eq_zero h0]
    · have := index_lt a.size (by omega) hs ws ws' k hk
      simp [Nat.min_eq_right (Nat.le_of_lt this)]

/-- C06, `choose` / `choose_mut`: `None` exactly for the empty slice, otherwise an element of the slice -/
theorem choose_spec (a : Array Nat) (hs : a.size < 2 ^ 64) (ws ws' : Words) (r : Option Nat)
    (h : choose a ws = some (r, ws')) :
    (r = none ↔ a.size = 0) ∧ (∀ x, r = some x → x ∈ a) := by
  rw [choose_eq_singleExact a hs] at h
  simpa using singleExact_spec a.toList (by simpa using hs) ws ws' r h

theorem loop_mem (items : List Nat) (denom : Nat) (result : Option Nat) (ws ws' : Words) (r : Option Nat)
    (h : Reservoir.loop items denom result ws = some (r, ws')) : r = result ∨ ∃ x ∈ items, r = some x := by
  fun_induction Reservoir.loop items denom result ws with
  | case1 => simp_all
  | case2 => simp at h
  | case3 item rest denom result ws take ws1 hb ih =>
    rcases ih h with e | ⟨x, hx, e⟩
    · cases take
      · left; simpa using e
      · right; exact ⟨item, List.mem_cons_self, by simpa using e⟩
    · right; exact ⟨x, List.mem_cons_of_mem _ hx, e⟩

theorem loop_some (items : List Nat) (denom : Nat) (result : Option Nat) (ws ws' : Words) (r : Option Nat)
    (hres : result.isSome = true) (h : Reservoir.loop items denom result ws = some (r, ws')) : r.isSome = true := by
  fun_induction Reservoir.loop items denom result ws with
  | case1 => simp_all
  | case2 => simp at h
  | case3 item rest denom result ws take ws1 hb ih => exact ih (by cases take <;> simp [hres]) h

/-- the first item is always taken: `chance(1.0 / 1.0)` is certain (C14) -/
theorem first_item_taken (w₁ w₂ : BitVec 64) (ws : Words) :
    bernoulli (IEEE.div IEEE.b64 Reservoir.one Reservoir.one) (w₁ :: w₂ :: ws) = some (true, ws) := by
  have e : IEEE.div IEEE.b64 Reservoir.one Reservoir.one = Reservoir.one := by decide +kernel
  rw [e, C14.bernoulli_eq, C14.certain Reservoir.one (by decide +kernel) w₁ w₂]

/-- C06, `single` on an iterator of unknown size: `None` exactly for the empty collection, otherwise an element that really is in
it (whenever the word source does not run dry: every item costs one `chance`, i.e. one `Float01` of two words) -/
theorem single_reservoir_spec (items : List Nat) (ws ws' : Words) (r : Option Nat)
    (h : Reservoir.single items ws = some (r, ws')) :
    (r = none ↔ items = []) ∧ (∀ x, r = some x → x ∈ items) := by
  unfold Reservoir.single at h
  constructor
  · cases items with
    | nil => simp [Reservoir.loop] at h; simp [h.1.symm]
    | cons item rest =>
      simp only [Reservoir.loop] at h
      match ws, h with
      | [], h => simp [bernoulli, Float01.sample64] at h
      | [_], h => simp [bernoulli, Float01.sample64] at h
      | w₁ :: w₂ :: ws1, h =>
        rw [first_item_taken] at h
        have := loop_some rest _ (some item) ws1 ws' r rfl h
        constructor
        · intro e; rw [e] at this; simp at this
        · intro e; simp at e
  · intro x hx
    rcases loop_mem items _ none ws ws' r h with e | ⟨y, hy, e⟩
    · rw [hx] at e; simp at e
    · rw [hx] at e; injection e with e; rw [e]; exact hy

/-- the reservoir in exact arithmetic: if item `i` (0-based) replaces the candidate with probability `1/(i+1)`, every item
`j < n` is the final result with probability `1/n` -/
theorem reservoir_exact (n j : ℕ) (hj : j < n) :
    (1 / ((j : ℚ) + 1)) * ∏ i ∈ Finset.Ico (j + 1) n, (1 - 1 / ((i : ℚ) + 1)) = 1 / (n : ℚ) := by
  induction n with
  | zero => omega
  | succ n ih =>
    by_cases hjn : j = n
    · subst hjn
      simp
    · have hlt : j < n := by omega
      rw [Finset.prod_Ico_succ_top (by omega), ← mul_assoc, ih hlt]
      have hn : (n : ℚ) ≠ 0 := by exact_mod_cast (by omega : n ≠ 0)
      push_cast
      field_simp
      ring

theorem rel_band_of_abs {q p ε : ℚ} (h : |q - p| ≤ ε * p) : (1 - ε) * p ≤ q ∧ q ≤ (1 + ε) * p := by
  have h := abs_sub_le_iff.1 h
  exact ⟨by rw [sub_mul, one_mul]; exact sub_le_comm.1 h.2, by rw [add_mul, one_mul]; exact sub_le_iff_le_add'.1 h.1⟩

theorem prod_band {ι : Type} (s : Finset ι) (f g : ι → ℚ) (lo hi : ℚ) (hlo : 0 ≤ lo)
    (hg : ∀ i ∈ s, 0 ≤ g i) (h : ∀ i ∈ s, lo * g i ≤ f i ∧ f i ≤ hi * g i) :
    lo ^ s.card * ∏ i ∈ s, g i ≤ ∏ i ∈ s, f i ∧ ∏ i ∈ s, f i ≤ hi ^ s.card * ∏ i ∈ s, g i := by
  rw [← Finset.prod_const, ← Finset.prod_const, ← Finset.prod_mul_distrib, ← Finset.prod_mul_distrib]
  exact ⟨Finset.prod_le_prod (fun i hi => mul_nonneg hlo (hg i hi)) (fun i hi => (h i hi).1),
    Finset.prod_le_prod (fun i hi => (mul_nonneg hlo (hg i hi)).trans (h i hi).1) (fun i hi => (h i hi).2)⟩

/-- error propagation through the reservoir: if every item `i` replaces the candidate with a probability `q i` within a relative
`ε` of `1/(i+1)` (item `0` is certain in the code: `chance(1.0)`), item `j` is the final result with probability within the
factor band `[(1-ε)^(n-j), (1+ε)^(n-j)]` of `1/n` -/
theorem reservoir_perturbed (q : ℕ → ℚ) (ε : ℚ) (hε0 : 0 ≤ ε) (hε1 : ε ≤ 1)
    (hq : ∀ i, |q i - 1 / ((i : ℚ) + 1)| ≤ ε / ((i : ℚ) + 1)) (j : ℕ) :
    ∀ n, j < n →
      (1 - ε) ^ (n - j) / (n : ℚ) ≤ q j * ∏ i ∈ Finset.Ico (j + 1) n, (1 - q i) ∧
      q j * ∏ i ∈ Finset.Ico (j + 1) n, (1 - q i) ≤ (1 + ε) ^ (n - j) / (n : ℚ) := by
  intro n hj
  -- one product over `Ico j n`: the factor of item `j` is `q j`, that of a later item `1 - q i`; each is within the relative
  -- band `[1-ε, 1+ε]` of its exact value (`e`), and the exact product is `1/n`
  let f : ℕ → ℚ := fun i => if i = j then q i else 1 - q i
  let e : ℕ → ℚ := fun i => if i = j then 1 / ((i : ℚ) + 1) else 1 - 1 / ((i : ℚ) + 1)
  have split (g h : ℕ → ℚ) :
      g j * ∏ i ∈ Finset.Ico (j + 1) n, h i = ∏ i ∈ Finset.Ico j n, (if i = j then g i else h i) := by
    rw [Finset.prod_eq_prod_Ico_succ_bot hj, if_pos rfl]
    exact congrArg _ (Finset.prod_congr rfl fun i hi => (if_neg (by have := (Finset.mem_Ico.1 hi).1; omega)).symm)
  have hband : ∀ i ∈ Finset.Ico j n, (1 - ε) * e i ≤ f i ∧ f i ≤ (1 + ε) * e i := by
    intro i hi
    by_cases hij : i = j
    · simp only [f, e, hij, if_true]
      exact rel_band_of_abs (by rw [mul_one_div]; exact hq j)
    · simp only [f, e, hij, if_false]
      -- `1/(i+1) ≤ 1 - 1/(i+1)` as `i ≥ 1`
      have hi1 : (1 : ℚ) ≤ i := by exact_mod_cast (by have := (Finset.mem_Ico.1 hi).1; omega : 1 ≤ i)
      have hhalf : 1 / ((i : ℚ) + 1) ≤ 1 - 1 / ((i : ℚ) + 1) := by
        rw [le_sub_iff_add_le, ← add_div, div_le_one (by positivity)]; linarith only [hi1]
      apply rel_band_of_abs
      rw [sub_sub_sub_cancel_left, abs_sub_comm]
      exact (hq i).trans (by rw [div_eq_mul_one_div]; exact mul_le_mul_of_nonneg_left hhalf hε0)
  have hg : ∀ i ∈ Finset.Ico j n, (0 : ℚ) ≤ e i := fun i _ => by
    have : 1 / ((i : ℚ) + 1) ≤ 1 := by
      rw [div_le_one (by positivity)]; linarith [(Nat.cast_nonneg i : (0 : ℚ) ≤ i)]
    simp only [e]; split
    · positivity
    · exact sub_nonneg.2 this
  have h := prod_band (Finset.Ico j n) f e (1 - ε) (1 + ε) (sub_nonneg.2 hε1) hg hband
  rwa [← split, ← split, reservoir_exact n j hj, Nat.card_Ico, mul_one_div, mul_one_div] at h

/-- Bernoulli's inequality below, and its counterpart above while `2·m·ε ≤ 1` -/
theorem pow_band (ε : ℚ) (hε0 : 0 ≤ ε) (m : ℕ) (hm : 2 * (m : ℚ) * ε ≤ 1) :
    1 - (m : ℚ) * ε ≤ (1 - ε) ^ m ∧ (1 + ε) ^ m ≤ 1 + 2 * (m : ℚ) * ε := by
  induction m with
  | zero => simp
  | succ k ih =>
    push_cast at hm ⊢
    have hkε : 0 ≤ (k : ℚ) * ε := mul_nonneg (Nat.cast_nonneg k) hε0
    obtain ⟨l, u⟩ := ih (by linarith)
    -- one more factor: the second-order terms are `k·ε² ≥ 0` below and `2·k·ε² ≤ ε` above
    have l' := mul_le_mul_of_nonneg_right l (show 0 ≤ 1 - ε by linarith)
    have u' := mul_le_mul_of_nonneg_right u (show 0 ≤ 1 + ε by linarith)
    have h1 := mul_nonneg hkε hε0
    have h2 : 2 * (k : ℚ) * ε * ε ≤ 1 * ε := mul_le_mul_of_nonneg_right (by linarith) hε0
    rw [pow_succ, pow_succ]
    constructor <;> linarith

/-- C06, the arithmetic of the floating-point reservoir: for any replacement probabilities `q i` within a relative `ε` of `1/(i+1)`,
item `j` of `n` is selected with a probability within `2ε` of `1/n`, while `2·n·ε ≤ 1`; the property's `2^-50` is `2ε` for
`ε = 2^-51`.  Not proved: that the step `chance(1.0 / denom)` of `Reservoir.loop` has such a `q i` with that `ε` (it needs
`denom = i + 1` exactly as floats, the rounding of `1.0 / denom`, and C14's count for `bernoulli`), and that the steps multiply. -/
theorem reservoir_fp_bound (q : ℕ → ℚ) (ε : ℚ) (hε0 : 0 ≤ ε) (hε1 : ε ≤ 1)
    (hq : ∀ i, |q i - 1 / ((i : ℚ) + 1)| ≤ ε / ((i : ℚ) + 1)) (n j : ℕ) (hj : j < n) (hn : 2 * (n : ℚ) * ε ≤ 1) :
    |q j * ∏ i ∈ Finset.Ico (j + 1) n, (1 - q i) - 1 / (n : ℚ)| ≤ 2 * ε := by
  obtain ⟨hlo, hhi⟩ := reservoir_perturbed q ε hε0 hε1 hq j n hj
  generalize q j * ∏ i ∈ Finset.Ico (j + 1) n, (1 - q i) = x at hlo hhi
  have hnpos : (0 : ℚ) < n := by exact_mod_cast (by omega : 0 < n)
  have hmle : ((n - j : ℕ) : ℚ) ≤ n := by exact_mod_cast Nat.sub_le n j
  have hmε : ((n - j : ℕ) : ℚ) * ε ≤ n * ε := mul_le_mul_of_nonneg_right hmle hε0
  obtain ⟨b1, b2⟩ := pow_band ε hε0 (n - j) (by linarith)
  -- multiply by `n`: `1 - n·ε ≤ n·x ≤ 1 + 2·n·ε`
  rw [div_le_iff₀ hnpos] at hlo
  rw [le_div_iff₀ hnpos] at hhi
  have e : 1 / (n : ℚ) * n = 1 := one_div_mul_cancel hnpos.ne'
  rw [abs_sub_le_iff, sub_le_iff_le_add, sub_le_iff_le_add]
  constructor <;> refine le_of_mul_le_mul_right ?_ hnpos <;> rw [add_mul, e] <;> linarith

/-- non-vacuity: the exact probabilities satisfy the hypothesis with `ε = 0` -/
example : ∀ i : ℕ, |(fun i : ℕ => 1 / ((i : ℚ) + 1)) i - 1 / ((i : ℚ) + 1)| ≤ (0 : ℚ) / ((i : ℚ) + 1) := by
  intro i; simp

example : choose #[7, 8, 9] [0xFFFFFFFFFFFFFFFF#64] = some (some 9, []) := by decide

end Urandom.C06
