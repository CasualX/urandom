import Urandom.Generated.GlueSerde
/-!
# The hand-written serde of `ChaChaState` as read from the source (C19)

`ChaChaState<N>` (src/rng/chacha.rs) serialises itself as one sequence of u32 and reads itself back from one.  `tools/extract_glue.py` checks the
shape of both functions against the current source - `[self.<field>[i], ..].serialize(serializer)` and `let values = <[u32; K]>::deserialize(..)?;
Ok(ChaChaState { <field>: [values[i], ..], .. })` - and extracts the two index tables.  Proved here: deserialising what was serialised gives back
every element of every field (all 12 words: key, counter, stream id), whatever the words are.
-/
namespace Urandom.C19R
open Urandom.Generated.Glue

variable {α : Type}

/-- a state: the element `i` of the field `f` -/
abbrev St (α : Type) := String → Nat → α

/-- what `serialize` writes -/
def ser (st : St α) : List α := chachaSerialize.map fun p => st p.1 p.2

/-- what `deserialize` makes of a sequence: element `j` of field `f` (`none`: the field is not assigned, or the position does not exist) -/
def de (vals : List α) (f : String) (j : Nat) : Option α :=
  match chachaDeserialize.lookup f with
  | none => none
  | some ix => match ix[j]? with
    | none => none
    | some pos => vals[pos]?

theorem serialized_length : chachaSerialize.length = chachaDeserializeLen := rfl

theorem de_map {β : Type} (g : α → β) (vals : List α) (f : String) (j : Nat) : de (vals.map g) f j = (de vals f j).map g := by
  unfold de
  split
  · rfl
  · split
    · rfl
    · exact List.getElem?_map ..

/-- the table fact everything rests on, as the round trip of the state whose element `j` of field `f` is the pair `(f, j)` itself -/
theorem roundtrip_names : ∀ fl ∈ chachaFields, ∀ j < fl.2, de (ser Prod.mk) fl.1 j = some (fl.1, j) := by decide +kernel

/-- C19 for the hand-written serde: every element of every field comes back, for every state -/
theorem chacha_state_roundtrip (st : St α) : ∀ fl ∈ chachaFields, ∀ j < fl.2, de (ser st) fl.1 j = some (st fl.1 j) := by
  intro fl hfl j hj
  -- every state is the image of the state of names, and `de` commutes with the map
  rw [show ser st = (ser Prod.mk).map fun p => st p.1 p.2 by simp [ser], de_map, roundtrip_names fl hfl j hj]
  rfl

/-- non-vacuity: the struct has the three fields with 8 + 2 + 2 words -/
example : chachaFields = [("seed", 8), ("counter", 2), ("stream", 2)] := rfl

end Urandom.C19R
