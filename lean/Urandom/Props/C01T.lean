import Urandom.Lemmas.ScalarProof
/-
C01 (second module) - the word generators as translated from the source.  `tools/extract_scalar.py` regenerates `Urandom.Generated.Scalar`
on every run from `src/rng/{splitmix64,wyrand,xoshiro256}.rs` and the float conversions of `src/rng/util.rs` (constants, shift and rotate
amounts, operators, statement order, the two loops of `jump`, the `Rng` impl methods, `from_seed`); the hand-written model
(`Urandom.Model.Word`), which `Props/C01.lean` proves equal to the published algorithms, is proved equal to those definitions here.
-/
namespace Urandom.C01
open Urandom.Generated ScalarProof

theorem splitmix_mix64_translated : Scalar.splitmix.mix64 = SplitMix.mix64 := by funext z; rfl
theorem splitmix_next_translated (x : BitVec 64) : Scalar.splitmix.next x = SplitMix.next x := rfl
theorem splitmix_jump_translated (x : BitVec 64) : Scalar.splitmix.jump x = SplitMix.jump x := rfl

theorem wyrand_mum_translated (a b : BitVec 64) : Scalar.wyrand.rapid_mum a b = Wyrand.rapidMum a b := rfl
theorem wyrand_mix_translated (a b : BitVec 64) : Scalar.wyrand.rapid_mix a b = Wyrand.rapidMix a b := rfl
theorem wyrand_next_translated (s : BitVec 64) : Scalar.wyrand.wyrand s = Wyrand.next s := rfl
theorem wyrand_jump_translated (s : BitVec 64) : Scalar.wyrand.jump s = Wyrand.jump s := rfl

theorem xoshiro_advance_translated (s : Xoshiro.S) : Scalar.xoshiro.advance s.s0 s.s1 s.s2 s.s3 =
    ((Xoshiro.advance s).s0, (Xoshiro.advance s).s1, (Xoshiro.advance s).s2, (Xoshiro.advance s).s3) := rfl

theorem xoshiro_next_plusplus_translated (s : Xoshiro.S) : Scalar.xoshiro.next_plusplus s.s0 s.s1 s.s2 s.s3 =
    ((Xoshiro.nextPlusPlus s).1, (Xoshiro.nextPlusPlus s).2.s0, (Xoshiro.nextPlusPlus s).2.s1,
     (Xoshiro.nextPlusPlus s).2.s2, (Xoshiro.nextPlusPlus s).2.s3) := rfl

theorem xoshiro_next_plus_translated (s : Xoshiro.S) : Scalar.xoshiro.next_plus s.s0 s.s1 s.s2 s.s3 =
    ((Xoshiro.nextPlus s).1, (Xoshiro.nextPlus s).2.s0, (Xoshiro.nextPlus s).2.s1,
     (Xoshiro.nextPlus s).2.s2, (Xoshiro.nextPlus s).2.s3) := rfl

/-- `jump`: `for i in 0..4 { for b in 0..64 { if JUMP[i] & (1 << b) != 0 { acc ^= s }; advance(s) } }` -/
theorem xoshiro_jump_translated (s : Xoshiro.S) : Scalar.xoshiro.jump s.s0 s.s1 s.s2 s.s3 =
    ((Xoshiro.jump s).s0, (Xoshiro.jump s).s1, (Xoshiro.jump s).s2, (Xoshiro.jump s).s3) := by
  have hj : Xoshiro.jump s = (phi ((List.range' 0 4).foldl Scalar.xoshiro.jump_loop2 (0#64, 0#64, 0#64, 0#64, s.s0, s.s1, s.s2, s.s3))).2 := by
    rw [Xoshiro.jump, show Xoshiro.JUMPW = (List.range' 0 4).map JW from rfl, List.foldl_map,
      ← List.foldl_hom phi (g₂ := fun st i => Xoshiro.jumpWord (JW i) 64 0 st) fun st i => (outer_step st i).symm]
    rfl
  rw [hj]
  simp only [Scalar.xoshiro.jump]  -- unfolded first: left to `rfl`, the unifier recurses into the fold
  generalize List.foldl Scalar.xoshiro.jump_loop2 _ (List.range' 0 4) = R  -- not needed, but `rfl` is twenty times dearer with the fold in sight
  rfl

theorem rng_f32_translated (w : BitVec 32) : Scalar.util.rng_f32 w = rngF32 w := rfl
theorem rng_f64_translated (w : BitVec 64) : Scalar.util.rng_f64 w = rngF64 w := rfl

/-! `m_<method>` is the body of `impl Rng for <Generator>`'s method as a function of the one field `state` (result, new state); `from_seed` is the
inherent constructor, with `SplitMix64::from_seed(seed)` / `master.next_u64()` inside `Xoshiro256::from_seed` resolved to SplitMix64's own
translated constructor and method. -/

theorem splitmix_methods_translated (s : BitVec 64) :
    Scalar.splitmix.m_next_u32 s = SplitMix.gen.u32 s ∧ Scalar.splitmix.m_next_u64 s = SplitMix.gen.u64 s ∧
    Scalar.splitmix.m_jump s = SplitMix.gen.jump s ∧ Scalar.splitmix.from_seed s = SplitMix.fromSeed s := ⟨rfl, rfl, rfl, rfl⟩

theorem wyrand_methods_translated (s : BitVec 64) :
    Scalar.wyrand.m_next_u32 s = Wyrand.gen.u32 s ∧ Scalar.wyrand.m_next_u64 s = Wyrand.gen.u64 s ∧
    Scalar.wyrand.m_jump s = Wyrand.gen.jump s ∧ Scalar.wyrand.from_seed s = Wyrand.fromSeed s := ⟨rfl, rfl, rfl, rfl⟩

/-- the four state words of a model state as the translation passes them -/
def words4 (s : Xoshiro.S) : BitVec 64 × BitVec 64 × BitVec 64 × BitVec 64 := (s.s0, s.s1, s.s2, s.s3)

/-- Xoshiro256: `next_u32` and the float draws take the HIGH bits of the xoshiro256+ output, `next_u64` is xoshiro256++ -/
theorem xoshiro_methods_translated (s : Xoshiro.S) :
    Scalar.xoshiro.m_next_u32 s.s0 s.s1 s.s2 s.s3 = ((Xoshiro.gen.u32 s).1, words4 (Xoshiro.gen.u32 s).2) ∧
    Scalar.xoshiro.m_next_u64 s.s0 s.s1 s.s2 s.s3 = ((Xoshiro.gen.u64 s).1, words4 (Xoshiro.gen.u64 s).2) ∧
    Scalar.xoshiro.m_next_f32 s.s0 s.s1 s.s2 s.s3 = ((Xoshiro.gen.f32 s).1, words4 (Xoshiro.gen.f32 s).2) ∧
    Scalar.xoshiro.m_next_f64 s.s0 s.s1 s.s2 s.s3 = ((Xoshiro.gen.f64 s).1, words4 (Xoshiro.gen.f64 s).2) := ⟨rfl, rfl, rfl, rfl⟩

/-- `Xoshiro256::from_seed` (= `urandom::seeded`): four successive outputs of a SplitMix64 seeded with the seed, nothing else (no re-draw, no
special seed) -/
theorem xoshiro_from_seed_translated (seed : BitVec 64) :
    Scalar.xoshiro.from_seed seed = words4 (Xoshiro.fromSeed seed) := rfl

end Urandom.C01
