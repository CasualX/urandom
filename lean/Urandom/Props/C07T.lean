import Urandom.Model.Seq
import Urandom.Lemmas.Index
import Urandom.Generated.EffectMultiple
import Urandom.Lemmas.BitVecNat
/-!
C07 for `Random::multiple` as translated from the source.  `tools/extract_effect.py` checks that `Random::multiple` (src/random.rs) is
`let amount = buf.len(); let mut len = 0; collection.into_iter().enumerate().for_each(|(i, elem)| { .. }); len` and translates the closure -
one item - into a function of the running count, an abstract generator with `index`, and the item's position: `buf[e] = elem` is the event
`store e i`, `if let Some(slot) = buf.get_mut(e) { *slot = elem; }` the event `storeIf e i`.  Whenever the model `Seq.multiple` succeeds on
fewer than 2^64 items and slots, the translated fold, given the model's `index` as its generator, ends with the model's count and words, and
its stores (no indexing store out of bounds) give the model's buffer (`multiple_translated`): a replacement index from another range, a
store to another slot, a count that is not advanced breaks it.
-/
namespace Urandom.C07
open Urandom.Seq Urandom.Generated

/-- the model's `index` as a total generator function over the mock words -/
def idxT (ws : Words) (n : BitVec 64) : BitVec 64 × Words :=
  match index n.toNat ws with
  | some (k, ws') => (BitVec.ofNat 64 k, ws')
  | none => (0#64, ws)

/-- apply the stores to a buffer; `items` are the collection's items by position -/
def applyMul (items : List Nat) : Array Nat → List MulEv → Option (Array Nat)
  | buf, [] => some buf
  | buf, .store idx it :: rest =>
    if idx.toNat < buf.size then applyMul items (buf.setIfInBounds idx.toNat (items.getD it.toNat 0)) rest else none
  | buf, .storeIf idx it :: rest => applyMul items (buf.setIfInBounds idx.toNat (items.getD it.toNat 0)) rest

theorem applyMul_append (items : List Nat) (buf : Array Nat) (l1 l2 : List MulEv) :
    applyMul items buf (l1 ++ l2) = (applyMul items buf l1).bind (fun b => applyMul items b l2) := by
  induction l1 generalizing buf with
  | nil => simp [applyMul]
  | cons e l1 ih =>
    cases e with
    | store idx it =>
      simp only [List.cons_append, applyMul]
      split
      · exact ih _
      · simp
    | storeIf idx it =>
      exact ih _

theorem idxT_of {n k : Nat} {ws ws' : Words} (hn : n < 2 ^ 64) (h : index n ws = some (k, ws')) :
    idxT ws (BitVec.ofNat 64 n) = (BitVec.ofNat 64 k, ws') := by
  rw [idxT, toNat_ofNat_lt hn, h]

theorem fold_multiple : ∀ (xs : List Nat) (i : Nat) (buf : Array Nat) (len : Nat) (ws : Words) (pre : List Nat) (buf' : Array Nat)
    (cnt : Nat) (ws' : Words) (log : List MulEv),
    i = pre.length → (pre ++ xs).length < 2 ^ 64 → buf.size < 2 ^ 64 → len ≤ buf.size →
    multipleLoop xs i buf len ws = some ((buf', cnt), ws') →
    ∃ evs, (List.range' i xs.length).foldl (Effect.random.multiple_item idxT (BitVec.ofNat 64 buf.size)) (BitVec.ofNat 64 len, ws, log)
        = (BitVec.ofNat 64 cnt, ws', log ++ evs) ∧
      applyMul (pre ++ xs) buf evs = some buf' := by
  intro xs i buf len ws
  -- along the model's recursion: an item of the fill phase (`case2`) is one step of the translated closure with the event `store len i`,
  -- an item of the replace phase (`case4`) one with `storeIf k i`, `k` the model's draw `index (i + 1)`; `pre` are the items already seen
  induction xs, i, buf, len, ws using multipleLoop.induct with
  | case1 i buf len ws =>
    intro pre buf' cnt ws' log _ _ _ _ hm
    obtain ⟨⟨rfl, rfl⟩, rfl⟩ : (buf = buf' ∧ len = cnt) ∧ ws = ws' := by simpa [multipleLoop] using hm
    exact ⟨[], by simp, rfl⟩
  | case2 x xs i buf len ws hc ih =>
    intro pre buf' cnt ws' log hi hl hb hle hm
    subst hi
    have hl' : pre.length + (xs.length + 1) < 2 ^ 64 := by simpa using hl
    simp only [multipleLoop, hc, if_true] at hm
    obtain ⟨evs, h1, h2⟩ := ih (pre ++ [x]) buf' cnt ws' (log ++ [MulEv.store (BitVec.ofNat 64 len) (BitVec.ofNat 64 pre.length)])
      (by simp) (by simpa using hl) (by simpa using hb) (by simpa using Nat.succ_le_of_lt hc) hm
    refine ⟨MulEv.store (BitVec.ofNat 64 len) (BitVec.ofNat 64 pre.length) :: evs, ?_, ?_⟩
    · rw [List.length_cons, List.range'_succ, List.foldl_cons, Effect.random.multiple_item]
      simp only [BitVec.lt_def, toNat_ofNat_lt (show len < 2 ^ 64 by omega), toNat_ofNat_lt hb, hc, if_true]
      simpa [BitVec.ofNat_add_ofNat] using h1
    · simp only [applyMul, toNat_ofNat_lt (show len < 2 ^ 64 by omega), toNat_ofNat_lt (show pre.length < 2 ^ 64 by omega), hc, if_true]
      simpa using h2
  | case3 x xs i buf len ws hc hi' => intro _ _ _ _ _ _ _ _ _ hm; simp [multipleLoop, hc, hi'] at hm
  | case4 x xs i buf len ws hc k ws1 hk ih =>
    intro pre buf' cnt ws' log hi hl hb hle hm
    subst hi
    have hl' : pre.length + (xs.length + 1) < 2 ^ 64 := by simpa using hl
    simp only [multipleLoop, hc, if_false, hk] at hm
    have hkl : k < pre.length + 1 := index_lt _ (by omega) (by show _ < 2 ^ 64; omega) ws ws1 k hk
    obtain ⟨evs, h1, h2⟩ := ih (pre ++ [x]) buf' cnt ws' (log ++ [MulEv.storeIf (BitVec.ofNat 64 k) (BitVec.ofNat 64 pre.length)])
      (by simp) (by simpa using hl) (by simpa using hb) (by simpa using hle) hm
    refine ⟨MulEv.storeIf (BitVec.ofNat 64 k) (BitVec.ofNat 64 pre.length) :: evs, ?_, ?_⟩
    · rw [List.length_cons, List.range'_succ, List.foldl_cons, Effect.random.multiple_item]
      have hidx : idxT ws (BitVec.ofNat 64 pre.length + 1#64) = (BitVec.ofNat 64 k, ws1) := by
        rw [BitVec.ofNat_add_ofNat]; exact idxT_of (by omega) hk
      simp only [BitVec.lt_def, toNat_ofNat_lt (show len < 2 ^ 64 by omega), toNat_ofNat_lt hb, hc, if_false, hidx]
      simpa using h1
    · simp only [applyMul, toNat_ofNat_lt (show k < 2 ^ 64 by omega), toNat_ofNat_lt (show pre.length < 2 ^ 64 by omega)]
      simpa using h2

theorem multiple_translated (items : List Nat) (buf buf' : Array Nat) (cnt : Nat) (ws ws' : Words)
    (hl : items.length < 2 ^ 64) (hb : buf.size < 2 ^ 64) (hm : Seq.multiple items buf ws = some ((buf', cnt), ws')) :
    ∃ evs, Effect.random.multiple idxT ws (BitVec.ofNat 64 buf.size) items.length = (BitVec.ofNat 64 cnt, ws', evs) ∧
      applyMul items buf evs = some buf' := by
  obtain ⟨evs, h1, h2⟩ := fold_multiple items 0 buf 0 ws [] buf' cnt ws' [] rfl (by simpa using hl) hb (Nat.zero_le _) hm
  refine ⟨evs, ?_, by simpa using h2⟩
  unfold Effect.random.multiple
  simpa only [List.nil_append] using h1

/-- the premise is satisfiable: five items into two slots -/
example : (Seq.multiple [10, 20, 30, 40, 50] #[0, 0] [5#64, 0xffffffffffffffff#64, 7#64]).isSome = true := by decide +kernel

end Urandom.C07
