import Urandom.Lemmas.Fill
import Urandom.Lemmas.Block
/-
C10 - Byte fills write exactly the requested bytes, as the little-endian word stream.

Model: `rngFillWrites` (the write log of `util::rng_fill_bytes`: offsets, lengths, data) and
`Block.fill` (`BlockRngImpl::fill_bytes`), tied to the code by the `fillb` correspondence stream:
every generator x lengths x start offsets x element types x APIs, each run on two canary
backgrounds.  Memory effects outside the modelled writes are observed (canaries; Miri in thorough
runs), not proved.  The model is proved equal to the translated source in `Props/C10T.lean` and `Props/C01R.lean` (`rngFillWrites`) and in
`C03.fill_bytes_translated`, `Props/C03T.lean` (`Block.fill`).
-/
namespace Urandom.C10
open Urandom.Block

/-- every write of the log lies inside `[off, off + len)`, and they tile it left to right exactly once: `Contig` (`Lemmas/Fill.lean`)
plus non-empty stores whose lengths add up to `len` -/
def Tiles : Nat → Nat → List Write → Prop
  | off, len, [] => len = 0
  | off, len, w :: ws => w.off = off ∧ w.data.length ≤ len ∧ 0 < w.data.length ∧ Tiles (off + w.data.length) (len - w.data.length) ws

theorem leBytes_pos_len (v : BitVec 64) (n : Nat) : (leBytes v n).length = n := leBytes_length v n

theorem fillTail_tiles (v : BitVec 64) (off len : Nat) (h0 : 0 < len) (h8 : len < 8) :
    Tiles off len (fillTail v off len) := by
  revert h0; revert len
  apply forall_lt_eight <;> simp [fillTail, Tiles]

/-- C10: `rng_fill_bytes` writes every byte of the destination exactly once and nothing outside it, for every length (0 and
non-multiples of 8 included) and every start offset -/
theorem rngFill_tiles {σ : Type} (g : WordGen σ) : ∀ (len : Nat) (s : σ) (off : Nat),
    Tiles off len (rngFillWrites g s off len).1 := by
  intro len s off
  fun_induction rngFillWrites g s off len with
  | case1 s off len h8 v s' _ ws s'' e ih => rw [e] at ih; exact ⟨rfl, by simp; omega, by simp, by simpa using ih⟩
  | case2 s off len h8 h0 v s' _ => exact fillTail_tiles _ off len h0 (by omega)
  | case3 s off len h8 h0 => simp [Tiles]; omega

/-- C10: the bytes are the little-endian serialisation of the successive 64-bit outputs, truncated to the requested length, and exactly
`⌈len/8⌉` words are consumed, for any word generator -/
theorem fill_is_le_word_stream {σ : Type} (g : WordGen σ) (s : σ) (len : Nat) :
    fillBytes g s len = ((g.byteStream ((len + 7) / 8) s).take len, g.after ((len + 7) / 8) s) :=
  fillBytes_eq g s len

/-- the destination is exactly overwritten: `pre` and `post` stay untouched -/
theorem fill_touches_only_destination {σ : Type} (g : WordGen σ) (s : σ) (pre mid post : List Byte) :
    applyWrites (pre ++ mid ++ post) (rngFillWrites g s pre.length mid.length).1 =
      pre ++ (g.byteStream ((mid.length + 7) / 8) s).take mid.length ++ post := by
  obtain ⟨c, d, _⟩ := rngFillWrites_spec g s pre.length mid.length
  have hl := dataOf_length_rngFill g s pre.length mid.length
  rw [applyWrites_contig _ _ _ c (by simp [hl]), hl, d, List.append_assoc pre, List.take_left' rfl, ← List.append_assoc,
    List.drop_left' (by simp)]

/-- C10: a shorter fill is a prefix of a longer one from the same state -/
theorem fill_prefix {σ : Type} (g : WordGen σ) (s : σ) (m n : Nat) (h : m ≤ n) :
    (fillBytes g s m).1 = ((fillBytes g s n).1).take m := by
  simp only [fillBytes_eq]
  rw [List.take_take, Nat.min_eq_left h, g.byteStream_take ((m + 7) / 8) ((n + 7) / 8) s (by omega), List.take_take]
  congr 1
  omega

/-- C10: a fill returns exactly the requested number of bytes -/
theorem fill_length {σ : Type} (g : WordGen σ) (s : σ) (len : Nat) : (fillBytes g s len).1.length = len := by
  rw [fillBytes_eq, List.length_take, g.byteStream_length]; omega

variable {κ β : Type}

/-- the block generator's `fill_bytes(len)` returns exactly `len` elements, for every length and every buffer state -/
theorem block_fill_length (C : Core κ β) (len : Nat) (s : BS κ β) : (Block.fill C len s).1.length = len := by
  unfold Block.fill fillRem
  simp only
  split
  · rw [direct_length]; omega
  · rw [List.length_append, direct_length]
    split <;> simp only [List.length_append, take_length] <;> omega

/-- the typed wrappers (`fill_bytes::<T>`, `fill_bytes_uninit`, `random_bytes`) and the `io::Read`
adapter pass `size_of_val(buf)` bytes to the same routine; `read` reports `Ok(buf.len())`,
`read_exact` `Ok(())` - modelled as: the reported length is the requested length.  That the translated `read` does report the full
length is `C01R.random_io_read`. -/
def readReports (len : Nat) : Nat := len

example : Tiles 3 13 (rngFillWrites Xoshiro.gen (Xoshiro.fromSeed 42#64) 3 13).1 := rngFill_tiles _ 13 _ 3

end Urandom.C10
