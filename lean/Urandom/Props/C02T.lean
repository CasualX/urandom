import Urandom.Props.C02
import Urandom.Lemmas.SimdProof
/-
C02 (second module) - the three ChaCha back ends as translated from the source.  `tools/extract_simd.py` regenerates the register-machine
programs `Simd.Gen.slp`, `Simd.Gen.sse2`, `Simd.Gen.avx2` from `src/rng/chacha/{slp,sse2,avx2}.rs` on every run (`Generated/Simd.lean`);
`Simd.Prog.block` runs one on a generator state.  The theorems tie the row-wise model `ChaCha.block`, and the specification, to the code
text of all three (`slp_translated_is_model`, `sse2_translated_is_model`, `avx2_translated_is_model`; `translated_backends_are_keystream`),
including the two-blocks-per-register packing and the final `permute2x128` of the AVX2 one.  Kept apart from
`Props/C02.lean` so that a source file the translator cannot read breaks these obligations only.
-/
namespace Urandom.C02
open Urandom.ChaCha

theorem slp_translated_is_model (N : Nat) (s : State) :
    Simd.Gen.slp.block N s = (Simd.batchWords (block N s).1, (block N s).2) :=
  Simd.block_eq _ Simd.slp_T rfl rfl rfl N s

theorem sse2_translated_is_model (N : Nat) (s : State) :
    Simd.Gen.sse2.block N s = (Simd.batchWords (block N s).1, (block N s).2) :=
  Simd.block_eq _ Simd.sse2_T rfl rfl rfl N s

theorem avx2_translated_is_model (N : Nat) (s : State) :
    Simd.Gen.avx2.block N s = (Simd.batchWords (block N s).1, (block N s).2) :=
  Simd.block_eq _ Simd.avx2_T rfl rfl rfl N s

theorem keystream_of_correctT (p : Simd.Prog) (h : Simd.CorrectT p) (hoff : p.ctrOffsets = [0, 1, 2, 3]) (hstep : p.ctrStep = 4)
    (hdiv : p.loopDiv = 2) (N : Nat) (s : State) :
    (p.block N s).1 = (specBlock N s s.getCounter s.getStream).words ++ (specBlock N s (s.getCounter + 1) s.getStream).words ++
        (specBlock N s (s.getCounter + 2) s.getStream).words ++ (specBlock N s (s.getCounter + 3) s.getStream).words ∧
    (p.block N s).2 = s.setCounter (s.getCounter + 4) := by
  obtain ⟨h1, h2, h3, h4⟩ := batch_is_keystream N s
  rw [Simd.block_eq p h hoff hstep hdiv, Simd.batchWords, h1, h2, h3, h4]
  exact ⟨rfl, rfl⟩

/-- C02 for the code text: every back end, as translated, writes the keystream blocks at counters `c, c+1, c+2, c+3` (mod 2^64) of the
generator's key and stream id, in order, and advances the counter by 4 -/
theorem translated_backends_are_keystream (N : Nat) (s : State) (p : Simd.Prog)
    (hp : p = Simd.Gen.slp ∨ p = Simd.Gen.sse2 ∨ p = Simd.Gen.avx2) :
    (p.block N s).1 = (specBlock N s s.getCounter s.getStream).words ++ (specBlock N s (s.getCounter + 1) s.getStream).words ++
        (specBlock N s (s.getCounter + 2) s.getStream).words ++ (specBlock N s (s.getCounter + 3) s.getStream).words ∧
    (p.block N s).2 = s.setCounter (s.getCounter + 4) := by
  rcases hp with rfl | rfl | rfl
  · exact keystream_of_correctT _ Simd.slp_T rfl rfl rfl N s
  · exact keystream_of_correctT _ Simd.sse2_T rfl rfl rfl N s
  · exact keystream_of_correctT _ Simd.avx2_T rfl rfl rfl N s

end Urandom.C02
