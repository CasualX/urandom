import Urandom.Generated.FloatDistr
/-!
# C15 for the parameter logic of Exp / Normal / LogNormal as translated from the source

`tools/extract_float.py` translates the current text of the macro bodies `impl_exp!`, `impl_normal!`, `impl_log_normal!` (src/distr/exp.rs,
src/distr/normal.rs; invoked for f32 and f64 with the same text) once, generic in the float format, into definitions over the vocabulary of
the IEEE model: the constructors `try_new` / `try_from_mean_cv`, `from_zscore`, and what `Exp::sample` makes of the unit-exponential draw.
The model's functions, which `Props/C15.lean` is about, are proved equal to the translations, for every format, every libm and every bit
pattern.  Three genuine defects sat in this code (D3, D4, D5): a relaxed or reordered validation, another stored value, an unfused or
widened transform breaks these proofs.
-/
namespace Urandom.C15
open Urandom.IEEE Urandom.FD Urandom.Generated

theorem exp_try_new_translated : @FloatD.exp_try_new = @Exp.tryNew := rfl

theorem exp_sample_value_translated (f : Fmt) (lambdaInv x : Nat) : FloatD.exp_sample_value f lambdaInv x = mul f x lambdaInv := rfl

theorem normal_try_new_translated : @FloatD.normal_try_new = @Normal.tryNew := rfl

theorem normal_try_from_mean_cv_translated : @FloatD.normal_try_from_mean_cv = @Normal.tryFromMeanCv := rfl

theorem normal_from_zscore_translated : @FloatD.normal_from_zscore = @Normal.fromZscore := rfl

theorem lognormal_try_new_translated : @FloatD.lognormal_try_new = @LogNormal.tryNew := by
  funext f mu sigma
  unfold FloatD.lognormal_try_new LogNormal.tryNew
  rw [normal_try_new_translated]
  cases Normal.tryNew f mu sigma <;> rfl

theorem lognormal_try_from_mean_cv_translated : @FloatD.lognormal_try_from_mean_cv = @LogNormal.tryFromMeanCv := by
  funext m f mean cv
  unfold FloatD.lognormal_try_from_mean_cv LogNormal.tryFromMeanCv
  rw [normal_try_new_translated]
  split
  · split
    · rfl
    · simp only
      cases Normal.tryNew f (m.ln f mean) (c f 0) <;> rfl
  · split
    · rfl
    · split
      · rfl
      · simp only
        cases Normal.tryNew f _ _ <;> rfl

theorem lognormal_from_zscore_translated : @FloatD.lognormal_from_zscore = @LogNormal.fromZscore := by
  funext m f d z
  unfold FloatD.lognormal_from_zscore LogNormal.fromZscore
  rw [normal_from_zscore_translated]

/-! `impl Distribution<f32>` of `StandardNormal` / `Exp1` must be `let x: f64 = self.sample(rand); x as f32`: checked by the translator. -/

/-- symmetric with the normal tables, one-sided with the exponential tables -/
theorem sampler_calls_translated :
    FloatD.std_normal_call = (true, "ZIG_NORM_X", "ZIG_NORM_F") ∧ FloatD.exp1_call = (false, "ZIG_EXP_X", "ZIG_EXP_F") := ⟨rfl, rfl⟩

theorem pdfs_translated (m : Libm) : FloatD.std_normal_pdf m = normPdf m ∧ FloatD.exp1_pdf m = expPdf m :=
  ⟨rfl, rfl⟩

/-- `Exp1`'s tail: one `float01()` draw, `R - ln(f)` -/
theorem exp_tail_translated (m : Libm) (R u : Nat) (ws : Words) :
    FloatD.exp1_tail_draws = 1 ∧
    expTail m R ws = (Float01.sample64 ws).map (fun (f, ws') => (FloatD.exp1_tail m R u f, ws')) := by
  refine ⟨rfl, ?_⟩
  unfold expTail
  cases Float01.sample64 ws with
  | none => rfl
  | some r => rfl

/-- `StandardNormal`'s tail (Marsaglia): every round draws two `float01()`, `x` first -/
theorem norm_tail_loop_translated (m : Libm) (R x y : Nat) (w₁ w₂ w₃ w₄ : BitVec 64) (rest : Words) :
    FloatD.std_normal_tail_draws = 2 ∧
    normTailLoop m R x y (w₁ :: w₂ :: w₃ :: w₄ :: rest) =
      (if FloatD.std_normal_tail_cond x y then
        normTailLoop m R (FloatD.std_normal_tail_step m R x y (Float01.bits64 w₁ w₂) (Float01.bits64 w₃ w₄)).1
          (FloatD.std_normal_tail_step m R x y (Float01.bits64 w₁ w₂) (Float01.bits64 w₃ w₄)).2 rest
       else some ((x, y), w₁ :: w₂ :: w₃ :: w₄ :: rest)) := by
  refine ⟨rfl, ?_⟩
  rfl

theorem norm_tail_translated (m : Libm) (R u : Nat) (ws : Words) :
    normTail m R u ws =
      (match normTailLoop m R FloatD.std_normal_tail_init.1 FloatD.std_normal_tail_init.2 ws with
       | none => none
       | some ((x, y), ws') => some (FloatD.std_normal_tail_result R u x y, ws')) := rfl

end Urandom.C15
