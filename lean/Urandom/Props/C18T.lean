import Urandom.Model.ReadMock
import Urandom.Generated.ScalarReadMock
/-!
# C18: the shape of `Read` and `Mock` as read from the source

src/rng/read.rs and src/rng/mock.rs are glue around `io::Read::read_exact` and `Iterator::next`.  `tools/extract_scalar.py` checks their shape
against the source text on every run - each word method of `Read` is `let mut buf = [0u8; N]; if let Err(err) = self.reader.read_exact(&mut
buf) { read_failed(err); } uM::from_le_bytes(buf)`, `fill_bytes` reads exactly the destination, a failure goes to the diverging
`read_failed`, `jump` does nothing; `Mock` takes one word per draw (`as u32`: the low half), fills through `util::rng_fill_bytes`, does not
implement `jump` - and extracts N and M, which the model's `ReadGen.step` uses (`read_words_translated`).  What `read_exact` itself does is std's documented loop, modelled
in `Model/ReadMock.lean`.
-/
namespace Urandom.C18
open Urandom.ReadGen Urandom.Generated

theorem read_words_translated (r : Reader) :
    Scalar.readmock.read_u32 = (4, 32) ∧ Scalar.readmock.read_u64 = (8, 64) ∧
    step r .u32 = (match r.exact Scalar.readmock.read_u32.1 with
                   | (some b, r') => (.val (leVal b), r')
                   | (none, r') => (.panic, r')) ∧
    step r .u64 = (match r.exact Scalar.readmock.read_u64.1 with
                   | (some b, r') => (.val (leVal b), r')
                   | (none, r') => (.panic, r')) ∧
    Scalar.readmock.mock_shape_checked = true := ⟨rfl, rfl, rfl, rfl, rfl⟩

end Urandom.C18
