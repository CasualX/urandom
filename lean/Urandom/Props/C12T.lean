import Urandom.Generated.FloatUniform
/-!
# C12 for `UniformFloat` as translated from the source

`tools/extract_float.py` translates the current text of `try_new` and `sample` of `UniformFloat<f32>` and `UniformFloat<f64>`
(src/distr/uniform/float.rs) into definitions over the vocabulary of the IEEE model (`checked`: the non-finite check that exists under
`debug_assertions` only; `sample` makes `u * scale + base`, two roundings, of its one unit-float draw; `try_new_inclusive` must
forward to `try_new`).  The model's `UniformFloat.tryNew` / `sampleU`, which `Props/C12.lean` and the findings D2 are about, are proved
equal to the translations.
-/
namespace Urandom.C12
open Urandom.FD Urandom.Generated

theorem ufloat_try_new_translated :
    @FloatD.ufloat_try_new_f32 = @UniformFloat.tryNew ∧ @FloatD.ufloat_try_new_f64 = @UniformFloat.tryNew :=
  ⟨rfl, rfl⟩

theorem ufloat_sample_translated :
    @FloatD.ufloat_sample_f32 = @UniformFloat.sampleU ∧ @FloatD.ufloat_sample_f64 = @UniformFloat.sampleU ∧
    FloatD.ufloat_sample_f32_draws = ["next_f32"] ∧ FloatD.ufloat_sample_f64_draws = ["next_f64"] :=
  ⟨rfl, rfl, rfl, rfl⟩

end Urandom.C12
