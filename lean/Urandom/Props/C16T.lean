import Urandom.Generated.FloatZiggurat
/-!
# C16 / C15 for one trip round the loop of `ziggurat()` as translated from the source

`tools/extract_float.py` translates `into_float_with_exponent` and the body of the loop of `ziggurat()` (src/distr/ziggurat.rs) into a
decision over the drawn word: `ret x` (the rectangle: the candidate is returned), `tail u` (layer 0: `zero_case(rand, u)`), `wedge x accept`
(a `float01()` draw is needed; `accept f01` returns the candidate, otherwise the loop goes round again).  The model's `ziggurat`, which
`stdNormal` / `exp1` instantiate, is proved to be exactly this decision, for every word, table, density and tail sampler: layer index, unit
value `u` (symmetric: `[2,4) - 3`, one-sided: `[1,2) - (1 - EPSILON/2)`), candidate `x = u * x_tab[i]`, rectangle test against `x_tab[i+1]`
and wedge test `f_tab[i+1] + (f_tab[i] - f_tab[i+1]) * float01() < pdf(x)` are the code's.
-/
namespace Urandom.C16
open Urandom.IEEE Urandom.FD Urandom.Generated

theorem into_float_translated (w : BitVec 64) :
    FloatD.into_float w 0#64 = intoFloat w 0 ∧ FloatD.into_float w 1#64 = intoFloat w 1 := by
  unfold FloatD.into_float intoFloat
  have h12 : (12#64).toNat = 12 := rfl
  have h52 : (52#64).toNat = 52 := rfl
  have c0 : ((1023#64 + 0#64) <<< 52).toNat = (1023 + 0) <<< 52 := by decide
  have c1 : ((1023#64 + 1#64) <<< 52).toNat = (1023 + 1) <<< 52 := by decide
  constructor <;> simp only [h12, h52, BitVec.toNat_or, BitVec.toNat_ushiftRight, c0, c1]

/-- `1.0 - f64::EPSILON / 2.0`, evaluated in the IEEE model, is the constant the model uses; `4372995238176751616 =
0x3CB0000000000000` is `f64::EPSILON` as the translator prints it -/
theorem one_minus_half_eps : sub b64 (c b64 1) (div b64 4372995238176751616 (c b64 2)) = oneMinusHalfEps := by decide +kernel

/-- the translated decision in the model's words: `zigHead`, then rectangle / layer 0 / wedge -/
theorem zig_iter_eq (sym : Bool) (xTab fTab : Array Nat) (pdf : Nat → Nat) (w : BitVec 64) :
    FloatD.zig_iter sym xTab fTab pdf w =
      if (zigHead sym xTab w).2.2.2 then .ret (zigHead sym xTab w).2.2.1
      else if (zigHead sym xTab w).1 = 0 then .tail (zigHead sym xTab w).2.1
      else .wedge (zigHead sym xTab w).2.2.1 fun f01 => wedgeAccept fTab (zigHead sym xTab w).1 f01 (pdf (zigHead sym xTab w).2.2.1) := by
  have hi : (w &&& 255#64).toNat = w.toNat % 256 := Nat.and_two_pow_sub_one_eq_mod w.toNat 8
  have hi1 : ((w &&& 255#64) + 1#64).toNat = w.toNat % 256 + 1 := by
    rw [BitVec.toNat_add, hi]; simp; omega
  have hz : ((w &&& 255#64) == 0#64) = decide (w.toNat % 256 = 0) := by
    rw [← hi, Bool.eq_iff_iff, beq_iff_eq, decide_eq_true_iff, ← BitVec.toNat_inj]; rfl
  obtain ⟨f0, f1⟩ := into_float_translated w
  simp only [FloatD.zig_iter, zigHead, wedgeAccept, hi, hi1, hz, f0, f1, one_minus_half_eps, decide_eq_true_eq]
  rfl

theorem zig_iter_translated (sym : Bool) (xTab fTab : Array Nat) (pdf : Nat → Nat) (zeroCase : Nat → Draw Nat) (w : BitVec 64) (ws : Words) :
    ziggurat sym xTab fTab pdf zeroCase (w :: ws) =
      (match FloatD.zig_iter sym xTab fTab pdf w with
       | .ret x => some (x, ws)
       | .tail u => zeroCase u ws
       | .wedge x acc =>
         match ws with
         | w₁ :: w₂ :: rest => if acc (Float01.bits64 w₁ w₂) then some (x, rest) else ziggurat sym xTab fTab pdf zeroCase rest
         | _ => none) := by
  rw [ziggurat, zig_iter_eq]
  generalize zigHead sym xTab w = h
  obtain ⟨i, u, x, fast⟩ := h
  dsimp only
  split
  · rfl
  · split
    · rfl
    · rcases ws with _ | ⟨w1, _ | ⟨w2, rest⟩⟩ <;> rfl

end Urandom.C16
