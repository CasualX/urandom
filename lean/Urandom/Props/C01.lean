import Urandom.Lemmas.Fill
import Urandom.Lemmas.Word
/-
C01 - Seeded PRNG streams equal the published algorithms for every seed and call order.

The model (`Urandom.Model.Word`, tied to the Rust code by the `word` correspondence stream) is
proved equal to the published reference algorithms (`Urandom.Spec.Published`) under the
*declarative* history semantics, for every state and every finite operation history.  The model is also proved equal
to the code as translated from the source: `Props/C01T.lean` (the generators' scalar code), `Props/C01R.lean` (the
forwarding layer), `Props/C10T.lean` (`rng_fill_bytes`).
-/
namespace Urandom.C01
open Urandom.Spec

/-- `g` makes, call by call, the draws of the reference generator `r`; `run_eq` lifts this to whole histories -/
structure Implements {σ : Type} (g : WordGen σ) (r : Ref σ) : Prop where
  u64 : ∀ s, g.u64 s = (r.out64 s, r.T s)
  u32 : ∀ s, g.u32 s = (hi32 (r.outHi s), r.T s)
  f32 : ∀ s, g.f32 s = (0x3F800000#32 ||| (hi32 (r.outHi s) >>> 9), r.T s)
  f64 : ∀ s, g.f64 s = (0x3FF0000000000000#64 ||| (r.outHi s >>> 12), r.T s)
  jump : ∀ s, g.jump s = r.J s

section generic
variable {σ : Type} {g : WordGen σ} {r : Ref σ}

theorem words_eq (h : Implements g r) (k : Nat) (s : σ) : g.words k s = r.outputs k s := by
  induction k generalizing s with
  | zero => rfl
  | succ k ih => simp [WordGen.words, Ref.outputs, h.u64, ih]

theorem after_eq (h : Implements g r) (k : Nat) (s : σ) : g.after k s = iter r.T k s := by
  induction k generalizing s with
  | zero => rfl
  | succ k ih => simp [WordGen.after, iter, h.u64, ih]

theorem step_eq (h : Implements g r) (s : σ) (op : Op) : g.step s op = r.step s op := by
  cases op <;> simp [WordGen.step, Ref.step, h.u32, h.u64, h.f32, h.f64, h.jump, fillBytes_eq, WordGen.byteStream, Ref.byteStream,
    words_eq h, after_eq h]

/-- C01, generically: call-by-call agreement with the reference gives the reference's outputs and final state for every finite
interleaving of draws, fills, jumps, clones and splits. -/
theorem run_eq (h : Implements g r) (s : σ) (ops : List Op) : g.run s ops = r.run s ops := by
  induction ops generalizing s with
  | nil => rfl
  | cons op ops ih => simp [WordGen.run, Ref.run, step_eq h, ih]

end generic

theorem rotl_eq (x : BitVec 64) (k : Nat) (hk : k < 64) : Spec.rotl x k = x.rotateLeft k := by
  simp [Spec.rotl, BitVec.rotateLeft, BitVec.rotateLeftAux, Nat.mod_eq_of_lt hk]

theorem xoshiro_advance_eq (s : Xoshiro.S) : Xoshiro.advance s = xoshiroT s := by
  simp [Xoshiro.advance, Xoshiro.advanceK, xoshiroT, rotl_eq]

theorem rngF32_eq (w : BitVec 32) : rngF32 w = 0x3F800000#32 ||| (w >>> 9) := by
  simp [rngF32]
theorem rngF64_eq (w : BitVec 64) : rngF64 w = 0x3FF0000000000000#64 ||| (w >>> 12) := by
  simp [rngF64]

theorem jumpBit_eq (w : BitVec 64) (b : Nat) (st : Xoshiro.S × Xoshiro.S) :
    Xoshiro.jumpBit w b st = (xoshiroT st.1, if w &&& (1#64 <<< b) != 0
      then (⟨st.2.s0 ^^^ st.1.s0, st.2.s1 ^^^ st.1.s1, st.2.s2 ^^^ st.1.s2, st.2.s3 ^^^ st.1.s3⟩ : Xoshiro.S) else st.2) := by
  simp only [Xoshiro.jumpBit, xoshiro_advance_eq, Xoshiro.xorS]

theorem xoshiro_jump_eq (s : Xoshiro.S) : Xoshiro.jump s = xoshiroJump s := by
  simp only [Xoshiro.jump, xoshiroJump, Xoshiro.JUMPW, Xoshiro.jumpWord_eq_foldl, jumpBit_eq, List.range_eq_range', Xoshiro.zeroS]

theorem xoshiro_implements : Implements Xoshiro.gen xoshiroRef :=
  ⟨fun s => by simp [Xoshiro.gen, xoshiroRef, Xoshiro.nextPlusPlus, Xoshiro.outPlusPlus, xoshiroPlusPlus, rotl_eq, xoshiro_advance_eq],
   fun s => by simp [Xoshiro.gen, xoshiroRef, Xoshiro.nextPlus, Xoshiro.outPlus, xoshiroPlus, hi32, xoshiro_advance_eq],
   fun s => by simp [Xoshiro.gen, xoshiroRef, Xoshiro.nextPlus, Xoshiro.outPlus, xoshiroPlus, hi32, xoshiro_advance_eq, rngF32],
   fun s => by simp [Xoshiro.gen, xoshiroRef, Xoshiro.nextPlus, Xoshiro.outPlus, xoshiroPlus, xoshiro_advance_eq, rngF64],
   fun s => by simp only [Xoshiro.gen, xoshiroRef]; exact xoshiro_jump_eq s⟩

theorem splitmix_next_eq (x : BitVec 64) : SplitMix.next x = splitmix64 x := by
  simp [SplitMix.next, splitmix64, SplitMix.mix64, SplitMix.xs, SplitMix.GAMMA]

theorem splitmix_jump_eq (x : BitVec 64) : SplitMix.jump x = iter (fun x => (splitmix64 x).2) (2 ^ 40) x := weyl_jump SplitMix.GAMMA x 40

theorem splitmix_implements : Implements SplitMix.gen splitmixRef :=
  ⟨fun s => by simp [SplitMix.gen, splitmixRef, splitmix_next_eq],
   fun s => by simp [SplitMix.gen, splitmixRef, splitmix_next_eq, hi32],
   fun s => by simp [SplitMix.gen, splitmixRef, splitmix_next_eq, hi32, rngF32],
   fun s => by simp [SplitMix.gen, splitmixRef, splitmix_next_eq, rngF64],
   fun s => by simp only [SplitMix.gen, splitmixRef]; exact splitmix_jump_eq s⟩

theorem wyrand_next_eq (x : BitVec 64) : Wyrand.next x = wyrand x := by
  simp [Wyrand.next, wyrand, Wyrand.rapidMix, Wyrand.rapidMum, wymix, Wyrand.P0, Wyrand.P1, BitVec.mul_comm]

theorem wyrand_jump_eq (x : BitVec 64) : Wyrand.jump x = iter (fun x => (wyrand x).2) (2 ^ 40) x := weyl_jump Wyrand.P0 x 40

theorem wyrand_implements : Implements Wyrand.gen wyrandRef :=
  ⟨fun s => by simp [Wyrand.gen, wyrandRef, wyrand_next_eq],
   fun s => by simp [Wyrand.gen, wyrandRef, wyrand_next_eq, hi32],
   fun s => by simp [Wyrand.gen, wyrandRef, wyrand_next_eq, hi32, rngF32],
   fun s => by simp [Wyrand.gen, wyrandRef, wyrand_next_eq, rngF64],
   fun s => by simp only [Wyrand.gen, wyrandRef]; exact wyrand_jump_eq s⟩

theorem xoshiro_fromSeed_eq (seed : BitVec 64) : Xoshiro.fromSeed seed = xoshiroSeed seed := by
  simp [Xoshiro.fromSeed, xoshiroSeed, splitmix_next_eq, SplitMix.fromSeed]

/-- C01 for Xoshiro256 (hence `urandom::seeded`): xoshiro256++ for 64-bit words, the high bits of xoshiro256+ for 32-bit words and
floats, `fill` as the little-endian word stream, `jump` as the reference `jump()`. -/
theorem xoshiro_equals_published (s : Xoshiro.S) (ops : List Op) :
    Xoshiro.gen.run s ops = xoshiroRef.run s ops := run_eq xoshiro_implements s ops

/-- and from a seed: the state is expanded with SplitMix64, as the reference suggests (`xoshiroSeed`) -/
theorem xoshiro_seeded_equals_published (seed : BitVec 64) (ops : List Op) :
    Xoshiro.gen.run (Xoshiro.fromSeed seed) ops = xoshiroRef.run (xoshiroSeed seed) ops := by
  rw [xoshiro_fromSeed_eq]; exact run_eq xoshiro_implements _ ops

theorem splitmix_equals_published (seed : BitVec 64) (ops : List Op) :
    SplitMix.gen.run (SplitMix.fromSeed seed) ops = splitmixRef.run seed ops :=
  run_eq splitmix_implements seed ops

theorem wyrand_equals_published (seed : BitVec 64) (ops : List Op) :
    Wyrand.gen.run (Wyrand.fromSeed seed) ops = wyrandRef.run seed ops :=
  run_eq wyrand_implements seed ops

/-- the two words reported for a clone are the next two 64-bit outputs of its original, which is itself left untouched -/
theorem clone_continues {σ : Type} (g : WordGen σ) (s : σ) (ops : List Op) :
    ∃ a b rest s', g.run s (.clone :: .u64 :: .u64 :: ops) = (.cloned a b :: .w64 a :: .w64 b :: rest, s') ∧
      g.run s (.u64 :: .u64 :: ops) = (.w64 a :: .w64 b :: rest, s') := by
  refine ⟨(g.u64 s).1, (g.u64 (g.u64 s).2).1, (g.run (g.u64 (g.u64 s).2).2 ops).1, (g.run (g.u64 (g.u64 s).2).2 ops).2, ?_, ?_⟩ <;>
    simp [WordGen.run, WordGen.step]

/-- xoshiro256++ from state `[1,2,3,4]` (reference test vector). -/
theorem kat_xoshiro256pp :
    (Xoshiro.gen.run ⟨1#64, 2#64, 3#64, 4#64⟩ [.u64, .u64, .u64, .u64]).1 =
      [.w64 41943041#64, .w64 58720359#64, .w64 3588806011781223#64, .w64 3591011842654386#64] := by
  decide +kernel

/-- SplitMix64 from 1234567 (reference test vector). -/
theorem kat_splitmix64 :
    (SplitMix.gen.run (SplitMix.fromSeed 1234567#64) [.u64, .u64, .u64]).1 =
      [.w64 6457827717110365317#64, .w64 3203168211198807973#64, .w64 9817491932198370423#64] := by
  decide +kernel

/-- The crate's doc-test values for seed 42. -/
theorem kat_doc_seed42 :
    (Xoshiro.gen.run (Xoshiro.fromSeed 42#64) [.u32]).1 = [.w32 368317477#32] ∧
    (SplitMix.gen.run (SplitMix.fromSeed 42#64) [.u32]).1 = [.w32 3184996902#32] ∧
    (Wyrand.gen.run (Wyrand.fromSeed 42#64) [.u32]).1 = [.w32 3396458620#32] := by
  decide +kernel

end Urandom.C01
