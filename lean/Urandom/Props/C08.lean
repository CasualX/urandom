import Urandom.Lemmas.Primes
import Urandom.Lemmas.Period
import Urandom.Lemmas.XoshiroJump
import Urandom.Lemmas.XoConst
import Urandom.Lemmas.Mix
import Urandom.Lemmas.WyStream
import Urandom.Props.C03
import Urandom.Lemmas.XoOutput
/-
C08 - jump/split yield non-overlapping streams: fixed stride, full period.

The theorems are about the model of `src/rng/xoshiro256.rs`, `splitmix64.rs`, `wyrand.rs`
(`Urandom.Model.Word`, tied to the code by the `word` correspondence stream, which includes jump
and split ops and the final state after every history), and, for ChaCha, about `ChaCha.State.jump`
and the buffered block generator `Urandom.Block` (tied to `src/rng/chacha.rs` / `block.rs` by the
`chacha` correspondence stream: jump/split-rich histories from stream ids at the 32-bit and 64-bit
carry boundaries; every output and the serde-visible key/counter/stream/index compared).
The `jump` / `split` code as translated from the source is tied to the model in `C01.xoshiro_jump_translated` (C01T),
`C02.state_jump_translated` (C02S), `C01R.split_is_model` and `C01R.block_jump_is_model`.
Not stated: the period of Wyrand's output sequence; `xoshiro_split_disjoint` and `weyl_split_disjoint` are about states, not outputs.
-/
namespace Urandom.C08
open Function Urandom.Xoshiro Urandom.XoLin
open scoped Urandom.XoOut

/-- For every 256-bit state, `jump` leaves the generator exactly where 2^128 single steps would
(`Xoshiro.jump` is the code-shaped nested loop over the four `JUMP` words). -/
theorem xoshiro_jump_eq_pow (s : S) : Xoshiro.jump s = advance^[2 ^ 128] s := by
  rw [← iter_eq_iterate]; exact XoLin.jump_eq_pow s

theorem periodCerts_prime : ∀ c ∈ periodCerts, c.1.Prime := by
  simp only [periodCerts, List.forall_mem_cons, prime_5704689200685129054721, prime_59649589127497217,
    prime_67280421310721]
  norm_num

theorem prime_factor_cases (q : ℕ) (hq : q.Prime) (hd : q ∣ Nper) : q = 3 ∨ q = 5 ∨ q = 17 ∨ q = 257 ∨ q = 641 ∨ q = 65537 ∨ q = 274177 ∨ q = 6700417 ∨ q = 67280421310721 ∨ q = 59649589127497217 ∨ q = 5704689200685129054721 := by
  rw [← periodCerts_prod] at hd
  have := mem_list_primes_of_dvd_prod hq.prime (fun p hp => ?_) hd
  · -- the table lists the primes largest first
    have h : q ∈ [3, 5, 17, 257, 641, 65537, 274177, 6700417, 67280421310721, 59649589127497217, 5704689200685129054721] :=
      List.mem_reverse.2 this
    simpa using h
  · obtain ⟨c, hc, rfl⟩ := List.mem_map.1 hp
    exact (periodCerts_prime c hc).prime

theorem xoshiro_full_period_Nper (s : S) (hs : s ≠ zeroS) : minimalPeriod advance s = Nper :=
  periodCerts_prod ▸ minimalPeriod_of_orderCheck advLin xo_ann (by omega) periodCerts periodCerts_prime periodCerts_ok s hs

theorem Nper_eq : Nper = 2 ^ 256 - 1 := by norm_num [Nper]

/-- Full period: from every non-zero state of xoshiro256 the least `n > 0` with `advance^[n] s = s` is `2^256 - 1`. -/
theorem xoshiro_full_period (s : S) (hs : s ≠ zeroS) : minimalPeriod advance s = 2 ^ 256 - 1 :=
  Nper_eq ▸ xoshiro_full_period_Nper s hs

theorem xoshiro_zero_fixed : advance zeroS = zeroS := advLin.map_zero

/-- Successive splits are disjoint segments of one sequence: the `i`-th and `j`-th generator obtained
by successive `split`s start `2^128·(j-i)` steps apart, and values less than `2^128` steps into their
segments are different states, as long as all segments fit into the period. -/
theorem xoshiro_split_disjoint (s : S) (hs : s ≠ zeroS) (i j a b : ℕ) (hij : i < j)
    (hj : (j + 1) * 2 ^ 128 ≤ 2 ^ 256 - 1) (ha : a < 2 ^ 128) (hb : b < 2 ^ 128) :
    advance^[i * 2 ^ 128 + a] s ≠ advance^[j * 2 ^ 128 + b] s :=
  iterate_segments_ne (xoshiro_full_period s hs) _ i j a b hij hj ha hb

/-- the state of the `i`-th split-off generator: `i` jumps from the start -/
theorem xoshiro_jump_iterate (s : S) (i : ℕ) : Xoshiro.jump^[i] s = advance^[i * 2 ^ 128] s := by
  induction i with
  | zero => simp
  | succ i ih =>
    rw [Function.iterate_succ_apply', ih, xoshiro_jump_eq_pow, ← Function.iterate_add_apply]
    congr 1; ring

/-- a number divisible by every prime factor of `2^256 - 1` is divisible by it: the form in which `output_period` takes
squarefreeness -/
theorem Nper_dvd_of_primes (m : ℕ) (h : ∀ r : ℕ, r.Prime → r ∣ Nper → r ∣ m) : Nper ∣ m := by
  rw [← periodCerts_prod]
  refine List.prod_dvd_of_primes (fun p hp => ?_) (by decide) fun p hp => ?_ <;> obtain ⟨c, hc, rfl⟩ := List.mem_map.1 hp
  · exact periodCerts_prime c hc
  · exact h _ (periodCerts_prime c hc) (periodCerts_prod ▸ List.dvd_prod hp)

theorem xoshiro_cycle : XoOut.OneCycle advance zeroS Nper :=
  ⟨xoshiro_zero_fixed, by norm_num [Nper], by rw [XoOut.card_S]; norm_num [Nper], xoshiro_full_period_Nper⟩

/-- The sequence of 64-bit outputs of xoshiro256++ has period exactly `2^256 - 1` from every non-zero
state: if the outputs repeat with period `m` then `2^256 - 1` divides `m` (`XoOut.OneCycle.output_period`;
every output value is produced by exactly `2^192` states). -/
theorem xoshiro_output_full_period (s : S) (hs : s ≠ zeroS) (m : ℕ)
    (hm : ∀ n, outPlusPlus (advance^[n + m] s) = outPlusPlus (advance^[n] s)) : (2 ^ 256 - 1) ∣ m :=
  Nper_eq ▸ xoshiro_cycle.output_period outPlusPlus 1#64 (by decide) 192 (fun {_} => XoOut.card_plusPlusFibre 1#64)
    (by norm_num [Nper]) Nper_dvd_of_primes hs m hm

/-- hence two generators started in different non-zero states never produce the same stream of
64-bit outputs (they sit on the one cycle, less than a period apart) -/
theorem xoshiro_distinct_states_distinct_streams (s t : S) (hs : s ≠ zeroS) (ht : t ≠ zeroS) (hst : s ≠ t) :
    ∃ n, outPlusPlus (advance^[n] s) ≠ outPlusPlus (advance^[n] t) := by
  by_contra hall
  exact hst (xoshiro_cycle.eq_of_outputs_eq outPlusPlus (fun s hs m hm => Nper_eq ▸ xoshiro_output_full_period s hs m hm) hs ht
    (not_exists_not.1 hall))

/-- The 32-bit words and the unit floats of Xoshiro256 (`xoshiro256+`: the top `64 - k` bits of
`s0 + s3`; `k = 32` for `next_u32`, `41` for `next_f32`, `12` for `next_f64`) have the full period
`2^256 - 1` as well: the value `…0001` of the shifted sum has exactly `2^(192+k)` preimages. -/
theorem xoshiro_plus_output_full_period (k : ℕ) (hk : k < 64) (s : S) (hs : s ≠ zeroS) (m : ℕ)
    (hm : ∀ n, XoOut.outPlusShift k (advance^[n + m] s) = XoOut.outPlusShift k (advance^[n] s)) : (2 ^ 256 - 1) ∣ m := by
  refine Nper_eq ▸ xoshiro_cycle.output_period (XoOut.outPlusShift k) 1#64 (fun h => ?_) (192 + k)
    (fun {_} => XoOut.card_plusFibre k hk) (by norm_num [Nper]) Nper_dvd_of_primes hs m hm
  simpa [XoOut.outPlusShift, zeroS] using congrArg BitVec.toNat h

/-- the model's `next_u32`, zero-extended, is the shifted sum with `k = 32`; the like for `next_f32` / `next_f64`
(`k = 41`, `12`) is not stated -/
theorem xoshiro_u32_is_shift (s : S) : ((Xoshiro.gen.u32 s).1).setWidth 64 = XoOut.outPlusShift 32 s := by
  show (((s.s0 + s.s3) >>> 32).setWidth 32).setWidth 64 = (s.s0 + s.s3) >>> 32
  apply BitVec.eq_of_toNat_eq
  simp only [BitVec.toNat_setWidth, BitVec.toNat_ushiftRight, Nat.shiftRight_eq_div_pow]
  have h1 : (s.s0 + s.s3).toNat / 2 ^ 32 < 2 ^ 32 := by
    have := (s.s0 + s.s3).isLt
    exact Nat.div_lt_of_lt_mul (by norm_num at this ⊢; omega)
  rw [Nat.mod_eq_of_lt h1, Nat.mod_eq_of_lt (lt_trans h1 (by norm_num))]

/-- `2^63` as a core literal (a literal power elaborates differently with Mathlib in scope); `Lemmas/WyStream.lean`, which this file
imports, has to spell it `BitVec.ofNat 64 (2 ^ 63)` -/
def half : BitVec 64 := 0x8000000000000000#64

/-- a Weyl sequence `x ↦ x + c` with `c` odd (that is `hc`) has minimal period `2^64` -/
theorem weyl_period (c : BitVec 64) (hc : half * c = half) (x : BitVec 64) :
    minimalPeriod (fun x => x + c) x = 2 ^ 64 := by
  -- `n` steps add `n * c`: `2^64 * c = 0`, so the period is a power of two, and `2^63 * c = 2^63 ≠ 0` rules out the smaller ones
  have key := minimalPeriod_eq_prime_pow (f := fun x => x + c) (x := x) (p := 2) (k := 63)
  simp only [IsPeriodicPt, IsFixedPt, WyStream.iterate_add] at key
  have e1 : BitVec.ofNat 64 (2 ^ 63) = half := by norm_num [half]
  have e2 : BitVec.ofNat 64 (2 ^ (63+1)) = 0#64 := by norm_num; rfl
  rw [e1, e2, hc, BitVec.add_right_eq_self] at key
  exact key (by decide) (by simp)

/-- SplitMix64: `jump` is 2^40 steps of the state map, for every state -/
theorem splitmix_jump_eq_pow (x : BitVec 64) :
    SplitMix.jump x = (fun x => (SplitMix.next x).2)^[2 ^ 40] x :=
  (weyl_jump SplitMix.GAMMA x 40).trans (iter_eq_iterate ..)

/-- the state sequence of SplitMix64 has minimal period `2^64` from every state -/
theorem splitmix_period (x : BitVec 64) : minimalPeriod (fun x => (SplitMix.next x).2) x = 2 ^ 64 :=
  weyl_period _ (by decide) x  -- `(SplitMix.next x).2` unfolds to `x + GAMMA`; `by decide`: `half * GAMMA = half`, i.e. `GAMMA` is odd

/-- SplitMix64's output sequence has the same period: the finaliser is injective -/
theorem splitmix_output_period (x : BitVec 64) (m n : ℕ) (hm : m < 2 ^ 64) (hn : n < 2 ^ 64) :
    (SplitMix.next ((fun x => (SplitMix.next x).2)^[m] x)).1 = (SplitMix.next ((fun x => (SplitMix.next x).2)^[n] x)).1 ↔ m = n := by
  refine ⟨fun h => ?_, fun h => h ▸ rfl⟩
  have hp := splitmix_period x
  exact (iterate_eq_iterate_iff_of_lt_minimalPeriod (hp ▸ hm) (hp ▸ hn)).1
    ((BitVec.add_left_inj _).1 (SplitMix.mix64_injective h))

/-- Wyrand: `jump` is 2^40 steps of the state map, for every state -/
theorem wyrand_jump_eq_pow (x : BitVec 64) :
    Wyrand.jump x = (fun x => (Wyrand.next x).2)^[2 ^ 40] x :=
  (weyl_jump Wyrand.P0 x 40).trans (iter_eq_iterate ..)

/-- the state sequence of Wyrand has minimal period `2^64` from every state (as `splitmix_period`, with `P0`) -/
theorem wyrand_period (x : BitVec 64) : minimalPeriod (fun x => (Wyrand.next x).2) x = 2 ^ 64 :=
  weyl_period _ (by decide) x

/-- split segments of the Weyl generators do not overlap before 2^40 values are drawn and all
segments fit into the period -/
theorem weyl_split_disjoint (c : BitVec 64) (hc : half * c = half)
    (x : BitVec 64) (i j a b : ℕ) (hij : i < j) (hj : (j + 1) * 2 ^ 40 ≤ 2 ^ 64) (ha : a < 2 ^ 40) (hb : b < 2 ^ 40) :
    (fun x => x + c)^[i * 2 ^ 40 + a] x ≠ (fun x => x + c)^[j * 2 ^ 40 + b] x :=
  iterate_segments_ne (weyl_period c hc x) _ i j a b hij hj ha hb

section ChaChaJump
open Urandom.ChaCha Urandom.Block

/-- `jump` moves a ChaCha state to the next stream id (a full 64-bit increment: the carry from the low
into the high stream word is part of it) and leaves key and block counter alone. -/
theorem chacha_jump_next_stream (s : State) :
    (State.jump s).getStream = s.getStream + 1 ∧ (State.jump s).getCounter = s.getCounter ∧
    ((State.jump s).k0, (State.jump s).k1, (State.jump s).k2, (State.jump s).k3,
     (State.jump s).k4, (State.jump s).k5, (State.jump s).k6, (State.jump s).k7) =
      (s.k0, s.k1, s.k2, s.k3, s.k4, s.k5, s.k6, s.k7) :=
  ⟨C02.getStream_setStream .., rfl, rfl⟩

theorem chacha_jump_iterate (s : State) (i : ℕ) :
    (State.jump^[i] s).getStream = s.getStream + BitVec.ofNat 64 i ∧
    (State.jump^[i] s).getCounter = s.getCounter := by
  induction i with
  | zero => simp
  | succ i ih =>
    rw [Function.iterate_succ_apply']
    obtain ⟨h1, h2, _⟩ := chacha_jump_next_stream (State.jump^[i] s)
    refine ⟨?_, by rw [h2, ih.2]⟩
    rw [h1, ih.1, BitVec.add_assoc]
    congr 1
    exact BitVec.ofNat_add_ofNat i 1

/-- the generators obtained by fewer than 2^64 successive jumps/splits sit on pairwise distinct stream ids -/
theorem chacha_jumps_distinct (s : State) (i j : ℕ) (hij : i < j) (hj : j < 2 ^ 64) :
    (State.jump^[i] s).getStream ≠ (State.jump^[j] s).getStream := by
  rw [(chacha_jump_iterate s i).1, (chacha_jump_iterate s j).1]
  intro h
  have h' := (BitVec.add_right_inj _).mp h
  have := congrArg BitVec.toNat h'
  simp only [BitVec.toNat_ofNat] at this
  rw [Nat.mod_eq_of_lt (by omega), Nat.mod_eq_of_lt hj] at this
  omega

/-- the buffered generator's `jump`: the core jumps and the buffer is invalidated (`index = !0`),
so nothing of the old stream is served afterwards (`C03.jump_next_stream`) -/
theorem chacha_block_jump (N : Nat) (b : BS State (BitVec 8)) :
    (Block.jump (chachaCore N) b).core = State.jump b.core ∧ (Block.jump (chachaCore N) b).index = 2 ^ 32 - 1 :=
  ⟨rfl, rfl⟩

theorem chacha_split_semantics (N : Nat) (b : BS State (BitVec 8)) :
    Block.split (chachaCore N) b = (b, Block.jump (chachaCore N) b) := rfl

/-- Generators obtained by successive splits never return the same keystream position: child
`I` is split off first, the parent goes on (draws, jumps, further splits: `between`), child `J`
is split off later; whatever both then draw (the earlier child not jumping itself), no position
of the ghost keystream coordinates is handed out by both. -/
theorem chacha_successive_children_disjoint (S C : ℕ) (buf : ℕ → Pos) (before between opsI opsJ : List Block.Op)
    (hI : Block.Op.jump ∉ opsI) :
    let p0 := (run posCore (Block.new (S, C) (buf 0)) before).2
    let childI := (Block.split posCore p0).1
    let p2 := (run posCore (Block.split posCore p0).2 between).2
    let childJ := (Block.split posCore p2).1
    ∀ p ∈ (run posCore childI opsI).1, ∀ q ∈ (run posCore childJ opsJ).1, p ≠ q := by
  intro p0 childI p2 childJ p hp q hq
  refine C03.split_disjoint S C buf before opsI (between ++ opsJ) hI p hp q ?_
  rw [run_append]
  exact List.mem_append_right _ hq

example : (State.jump (State.new 0 0 0 0 0 0 0 0 7#64 0xffffffff#64)).getStream = 0x100000000#64 := by decide

end ChaChaJump

/-- `split` hands out a child whose first draw is the original's next 64-bit output, and advances the original by one jump
(any word generator). -/
theorem split_semantics {σ : Type} (g : WordGen σ) (s : σ) :
    g.step s .split = (.child (g.u64 s).1, g.jump s) := rfl

example : (⟨1#64, 0#64, 0#64, 0#64⟩ : S) ≠ zeroS := by decide

end Urandom.C08
