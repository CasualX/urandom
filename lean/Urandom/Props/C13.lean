import Urandom.Props.C04
import Urandom.Lemmas.Lemire
import Urandom.Model.Standard
/-
C13 - Standard-distribution values are exactly equiprobable and always valid.

Model: `Urandom.Standard` / `Urandom.Alnum` (tied to `src/distr/standard.rs`,
`src/distr/alnum.rs` by the `std` / `alnum` correspondence streams, debug and release builds; equal to the translated source:
`Props/C13T.lean`, `Props/C13R.lean`).
Stated per type: which words give which value (a bijection or the set of preimages) and that the value is valid.  Not stated: "equally
weighted" as one statement, and no probability is defined - for the narrow integers the preimages (`int_narrow_preimage`) and the draw
(`intSample_narrow`) stand side by side; for `char` it is `charOf_injective` / `charOf_surjective` with C04's `sample_uniform` for the draw,
for `Alnum` `alnum_index` and `alnum_table` with `shr_preimage` (Lemmas/Lemire.lean), never composed; for `NonZero*` only that zero never
comes out (`nonzero_never_zero`).
-/
namespace Urandom.C13
open Urandom.Standard UniformInt

/-- C13: a `b`-bit value (`b ≤ 32`) is the truncation of exactly the `2^(32-b)` 32-bit words `v + j·2^b`; with `intSample_narrow`
(8/16/32-bit integers are one truncated 32-bit draw) every such value is equally likely -/
theorem int_narrow_preimage (b v w : Nat) (hb : b ≤ 32) (hv : v < 2 ^ b) :
    (w < 2 ^ 32 ∧ w % 2 ^ b = v) ↔ ∃ j, j < 2 ^ (32 - b) ∧ w = v + j * 2 ^ b :=
  trunc_preimage 32 b v w hb hv

theorem intSample_narrow (b : Nat) (hb : b ≤ 32) (w : BitVec 64) (ws : Words) :
    intSample b (w :: ws) = some ((w.toNat % 2 ^ 32) % 2 ^ b, ws) := by
  simp [intSample, hb, Mock.u32]

/-- 64-bit integers (`i64`, `u64`, `isize`, `usize`) are one 64-bit draw, unchanged: a bijection -/
theorem intSample_64 (w : BitVec 64) (ws : Words) : intSample 64 (w :: ws) = some (w.toNat, ws) := by
  have : w.toNat % 2 ^ 64 = w.toNat := Nat.mod_eq_of_lt w.isLt
  simp [intSample, Mock.u64, this]

/-- 128-bit integers are `low | high << 64` of two consecutive draws, low word first - a bijection
between word pairs and 128-bit values -/
theorem intSample_128 (lo hi : BitVec 64) (ws : Words) :
    intSample 128 (lo :: hi :: ws) = some (lo.toNat + hi.toNat * 2 ^ 64, ws) ∧
      lo.toNat + hi.toNat * 2 ^ 64 < 2 ^ 128 ∧
      (lo.toNat + hi.toNat * 2 ^ 64) % 2 ^ 64 = lo.toNat ∧ (lo.toNat + hi.toNat * 2 ^ 64) / 2 ^ 64 = hi.toNat := by
  have h1 := lo.isLt
  refine ⟨?_, by omega, by omega, by omega⟩
  simp only [intSample, show ¬ (128 ≤ 32) by decide, show ¬ (128 ≤ 64) by decide, ↓reduceIte]
  congr 2
  rw [Nat.shiftLeft_eq, Nat.mul_comm, Nat.or_comm, ← Nat.two_pow_add_eq_or_of_lt h1]
  omega

/-- `bool` is the top bit of a 32-bit draw: `2^31` words each -/
theorem bool_sample (checked : Bool) (w : BitVec 64) (ws : Words) :
    primSample checked .bool (w :: ws) = some ((if w.toNat % 2 ^ 32 ≥ 2 ^ 31 then 1 else 0), ws) := by
  simp [primSample, Mock.u32]

theorem charOf_scalar (n : Nat) (h1 : GAP_SIZE ≤ n) (h2 : n < 0x110000) : isScalar (charOf n) := by
  unfold charOf isScalar GAP_SIZE at *; split <;> omega

theorem charOf_injective (a b : Nat) (ha : GAP_SIZE ≤ a) (hb : GAP_SIZE ≤ b) (h : charOf a = charOf b) : a = b := by
  unfold charOf GAP_SIZE at *; split at h <;> split at h <;> omega

theorem charOf_surjective (c : Nat) (h : isScalar c) : ∃ n, GAP_SIZE ≤ n ∧ n < 0x110000 ∧ charOf n = c := by
  rcases h with h | ⟨h1, h2⟩
  · exact ⟨c + 0x800, by unfold GAP_SIZE; omega, by omega, by unfold charOf GAP_SIZE; split <;> omega⟩
  · exact ⟨c, by unfold GAP_SIZE; omega, h2, by unfold charOf GAP_SIZE; split <;> omega⟩

/-- the distribution the `char` sampler draws from: `0x110000 - GAP_SIZE` values starting at `GAP_SIZE` -/
theorem char_range : tryNew IntTy.u32 GAP_SIZE 0x110000 false = .ok ⟨0x800, 0x10F800⟩ := by rfl

theorem char_draw_mem {ws ws1 : Words} {n : Nat} (hn : sample IntTy.u32 ⟨0x800, 0x10F800⟩ ws = some (n, ws1)) :
    GAP_SIZE ≤ n ∧ n < 0x110000 := by
  have := C04.sample_mem IntTy.u32 ⟨by decide, by decide⟩ GAP_SIZE 0x110000 false (by decide) (by decide) _ char_range ws ws1 n hn
  simp only [IntTy.toInt_unsigned IntTy.u32 rfl, Bool.false_eq_true, ↓reduceIte] at this
  omega

/-- the draw lies in `[GAP_SIZE, 0x110000)`, so its image is a scalar value and the check of debug builds never fires: both builds
return `charOf` of the draw -/
theorem charSample_eq (checked : Bool) (ws : Words) :
    charSample checked ws = (sample IntTy.u32 ⟨0x800, 0x10F800⟩ ws).map fun r => (charOf r.1, r.2) := by
  unfold charSample
  simp only [char_range]
  cases hn : sample IntTy.u32 ⟨0x800, 0x10F800⟩ ws with
  | none => rfl
  | some r =>
    have := char_draw_mem hn
    simp only [Option.map, charOf_scalar r.1 this.1 this.2, not_true_eq_false, and_false, ↓reduceIte]

/-- C13: `char` samples are always Unicode scalar values (never a surrogate, never above `0x10FFFF`), whatever the words: the
checked conversion of debug builds cannot panic and the unchecked conversion of release builds is sound -/
theorem char_always_scalar (checked : Bool) (ws ws' : Words) (c : Nat)
    (h : charSample checked ws = some (c, ws')) : isScalar c := by
  rw [charSample_eq, Option.map_eq_some_iff] at h
  obtain ⟨⟨n, ws1⟩, hn, e⟩ := h
  rw [← (Prod.mk.inj e).1]
  exact charOf_scalar n (char_draw_mem hn).1 (char_draw_mem hn).2

/-- release and debug builds agree on every word sequence -/
theorem char_checked_irrelevant (ws : Words) : charSample true ws = charSample false ws := by
  rw [charSample_eq, charSample_eq]

theorem nzSample_ne_zero (bits : Nat) (ws ws' : Words) (v : Nat) (h : nzSample bits ws = some (v, ws')) : v ≠ 0 := by
  fun_induction nzSample bits ws with
  | case1 => simp at h
  | case2 => simp at h
  | case3 w ws v1 ws1 hi hv => injection h with h; injection h with h1 h2; rw [← h1]; exact hv
  | case4 w ws v1 ws1 hi hv ih => exact ih h

theorem nzSample128_ne_zero (ws ws' : Words) (v : Nat) (h : nzSample128 ws = some (v, ws')) : v ≠ 0 := by
  fun_induction nzSample128 ws with
  | case1 lo hi ws x hv => injection h with h; injection h with h1 h2; rw [← h1]; exact hv
  | case2 lo hi ws x hv ih => exact ih h
  | case3 => simp at h

/-- C13: `NonZero*` samples are never zero, for every width and every word sequence -/
theorem nonzero_never_zero (checked : Bool) (bits : Nat) (ws ws' : Words) (v : Nat)
    (h : primSample checked (.nz bits) ws = some (v, ws')) : v ≠ 0 := by
  simp only [primSample] at h
  by_cases hb : bits > 64
  · simp only [hb, ↓reduceIte] at h
    exact nzSample128_ne_zero ws ws' v h
  · simp only [hb, ↓reduceIte] at h
    exact nzSample_ne_zero bits ws ws' v h

/-- tuples and arrays: component `i+1` is drawn from the words immediately after component `i` -/
theorem seqSample_cons (checked : Bool) (p : Prim) (ps : List Prim) (ws : Words) :
    seqSample checked (p :: ps) ws =
      match primSample checked p ws with
      | none => none
      | some (v, ws') =>
        match seqSample checked ps ws' with
        | none => none
        | some (vs, ws'') => some (v :: vs, ws'') := rfl

theorem seqSample_append (checked : Bool) : ∀ (ps qs : List Prim) (ws : Words),
    seqSample checked (ps ++ qs) ws =
      match seqSample checked ps ws with
      | none => none
      | some (vs, ws') =>
        match seqSample checked qs ws' with
        | none => none
        | some (us, ws'') => some (vs ++ us, ws'') := by
  intro ps qs ws
  fun_induction seqSample checked ps ws with
  | case1 ws => simp only [List.nil_append]; cases seqSample checked qs ws <;> rfl
  | case2 p ps ws hp => simp only [List.cons_append, seqSample, hp]
  | case3 p ps ws v ws1 hp hs ih => simp only [List.cons_append, seqSample, hp, ih, hs]
  | case4 p ps ws v ws1 hp vs ws2 hs ih =>
    simp only [List.cons_append, seqSample, hp, ih, hs]
    cases seqSample checked qs ws2 <;> rfl

/-- the table is exactly `[0-9A-Za-z]` (the string literal is decoded here, once) -/
theorem table_eq : Alnum.table =
    (List.range 10).map (fun i => Char.ofNat (48 + i)) ++ (List.range 26).map (fun i => Char.ofNat (65 + i)) ++
      (List.range 26).map (fun i => Char.ofNat (97 + i)) := by decide +kernel

/-- 62 pairwise distinct characters -/
theorem alnum_table : Alnum.table.length = 62 ∧ Alnum.table.Nodup ∧
    ∀ c ∈ Alnum.table, ('0' ≤ c ∧ c ≤ '9') ∨ ('A' ≤ c ∧ c ≤ 'Z') ∨ ('a' ≤ c ∧ c ≤ 'z') := by
  rw [table_eq]; decide +kernel

/-- C13: `Alnum` yields only table characters -/
theorem alnum_mem : ∀ (ws ws' : Words) (c : Char), Alnum.sample ws = some (c, ws') → c ∈ Alnum.table := by
  intro ws ws' c h
  fun_induction Alnum.sample ws with
  | case1 => simp at h
  | case2 w ws value hv => injection h with h; injection h with h1 h2; rw [← h1]; exact List.getElem_mem _
  | case3 w ws value hv ih => exact ih h

/-- C13: the index is the top six bits of one 32-bit draw (so each index comes from `2^26` words: `shr_preimage`), accepted when
`< 62` -/
theorem alnum_index (w : BitVec 64) (ws : Words) (i : Nat) (hi : i < 62) :
    (w.setWidth 32).toNat >>> 26 = i → Alnum.sample (w :: ws) = some (Alnum.table[i]'(by rw [alnum_table.1]; exact hi), ws) := by
  intro h
  simp only [Alnum.sample, h]
  have : i < Alnum.table.length := by rw [alnum_table.1]; exact hi
  simp [this]

example : charSample true [0#64, 0xFFFFFFFFFFFFFFFF#64] = some (0x10FFFF, []) := by decide

end Urandom.C13
