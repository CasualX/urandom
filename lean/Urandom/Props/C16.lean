import Mathlib.Tactic.Ring
import Urandom.Model.ZigData
import Urandom.Lemmas.ExpEnclosure
import Urandom.Lemmas.ZigguratLaw
import Urandom.Lemmas.TailLaw
import Urandom.Lemmas.BaseLayer
/-
C16 - Normal and exponential samplers really have the normal / exponential law.  PARTIAL.

Decided here:
 (1) table invariants, by the kernel on the tables translated from the source on every run
     (`Urandom.Generated.ZigTables`, exact decimal rationals): length 257, abscissae strictly decreasing to 0,
     ordinates strictly increasing to 1, the tail cut-off `R` equals `X[1]`, the 255 upper layers and the base
     strip of equal area to within the tables' own accuracy (`2^-28` / `2^-42`), and for the exponential table
     `X[0] = R + 1` (its tail area) to `2^-48`;
 (2) every tabulated ordinate is the density at the tabulated abscissa (`Real.exp`, relative `10^-13`, all
     2 x 257 entries): natural-number enclosures of `Real.exp` (`Lemmas/ExpEnclosure`: degree-19 Taylor fraction,
     Mathlib's remainder bound, `exp (k x) = (exp x)^k`) evaluated by the kernel;
 (3) a ziggurat step accepts exactly the points under the density curve, for any antitone density and any
     `ExactTable` over an ordered field (rectangle fast path included), and the accepted value lies in the layer's
     rectangle. This part stands alone: `stepPos` is not related to `FD.ziggurat`, `zigHead`, `wedgeAccept` or C16T's
     `zig_iter` by any theorem, and an `ExactTable` is indexed by all of `ℕ` with positive abscissae, so the crate's
     257-entry table, whose last abscissa is `0`, is not an instance;
 (4)-(6) for the idealised algorithm (exact real arithmetic, exactly uniform draws; Mathlib measure theory): the
     law of the layer method (`Lemmas/ZigguratLaw`), the conditional laws of the two tail samplers
     (`Lemmas/TailLaw`), and the base layer as rectangle + tail under the tail relation
     `(X[0] - R) f(R) = ∫_R^∞ f` (`Lemmas/BaseLayer`; `X[0] = R + 1` for the exponential density, a hypothesis
     for the normal table: it needs erfc enclosures).
Not decided: the effect of floating point and of the inexactness of the tables' areas on the law (a
goodness-of-fit search on the implementation covers it, not a proof); the composition of (4)-(6) into one
statement about the whole algorithm (`ziggurat_law` assumes a uniform point of layer 0, (6) gives its abscissa
only).  The full statement - the pushforward of the uniform measure on word streams under `stdNormal` / `exp1`
is N(0,1) / Exp(1) - is not stated as a Lean proposition; see DESIGN.md 6.
One loop iteration of the model is proved equal to translated source in `Props/C16T.lean`.
-/
namespace Urandom.C16
open Urandom.Generated

def sameScale (t : List (Nat × Nat)) (k : Nat) : Bool := t.all (·.2 == k)

def nums (t : List (Nat × Nat)) : List Nat := t.map (·.1)

def strictlyDecreasing : List Nat → Bool
  | a :: b :: rest => decide (b < a) && strictlyDecreasing (b :: rest)
  | _ => true

def strictlyIncreasing : List Nat → Bool
  | a :: b :: rest => decide (a < b) && strictlyIncreasing (b :: rest)
  | _ => true

/-- layer areas: `X[i]·(F[i+1] − F[i])` for `i = 1 … 255` against the base strip `X[0]·F[1]`
(all numerators over `10^36`); relative tolerance `2^-tolBits` -/
def areasEqual (xs fs : List Nat) (tolBits : Nat) : Bool :=
  match xs, fs with
  | x0 :: xr, _ :: f1 :: fr =>
    let v := x0 * f1
    let rec go : List Nat → List Nat → Nat → Bool
      | x :: xr', f' :: fr', fprev =>
        let a := x * (f' - fprev)
        decide ((if a ≥ v then a - v else v - a) * 2 ^ tolBits ≤ v) && go xr' fr' f'
      | _, _, _ => true
    go xr fr f1
  | _, _ => false

/-- the normal table; the tail relation of its base strip is not checked (it needs erfc enclosures) -/
theorem norm_table_ok :
    ZIG_NORM_X.length = 257 ∧ ZIG_NORM_F.length = 257 ∧ ZIG_NORM_X_len = 257 ∧ ZIG_NORM_F_len = 257 ∧
    sameScale ZIG_NORM_X 18 = true ∧ sameScale ZIG_NORM_F 18 = true ∧
    strictlyDecreasing (nums ZIG_NORM_X) = true ∧ (nums ZIG_NORM_X).getLast? = some 0 ∧
    strictlyIncreasing (nums ZIG_NORM_F) = true ∧ (nums ZIG_NORM_F).getLast? = some (10 ^ 18) ∧
    (nums ZIG_NORM_X)[1]? = some ZIG_NORM_R.1 ∧ ZIG_NORM_R.2 = 18 ∧
    areasEqual (nums ZIG_NORM_X) (nums ZIG_NORM_F) 28 = true := by
  decide +kernel

/-- the exponential table; its tail beyond `R` has area `F[1]·1`, so `X[0] = R + 1` (to `2^-48`) -/
theorem exp_table_ok :
    ZIG_EXP_X.length = 257 ∧ ZIG_EXP_F.length = 257 ∧ ZIG_EXP_X_len = 257 ∧ ZIG_EXP_F_len = 257 ∧
    sameScale ZIG_EXP_X 18 = true ∧ sameScale ZIG_EXP_F 18 = true ∧
    strictlyDecreasing (nums ZIG_EXP_X) = true ∧ (nums ZIG_EXP_X).getLast? = some 0 ∧
    strictlyIncreasing (nums ZIG_EXP_F) = true ∧ (nums ZIG_EXP_F).getLast? = some (10 ^ 18) ∧
    (nums ZIG_EXP_X)[1]? = some ZIG_EXP_R.1 ∧ ZIG_EXP_R.2 = 18 ∧
    areasEqual (nums ZIG_EXP_X) (nums ZIG_EXP_F) 42 = true ∧
    (let x0 := (nums ZIG_EXP_X).headD 0
     let r1 := ZIG_EXP_R.1 + 10 ^ 18
     (if x0 ≥ r1 then x0 - r1 else r1 - x0) * 2 ^ 48 ≤ r1) := by
  decide +kernel

/-- anchors for `FD.tables` (bit patterns computed by `decBits` from the translated decimals): `ZIG_NORM_R`, the two
table sizes, the last abscissa and the last ordinate of the normal table -/
theorem table_bits_anchor :
    FD.tables.normR = 0x400D3BB48209AD33 ∧ FD.tables.normX.size = 257 ∧ FD.tables.expX.size = 257 ∧
    FD.tables.normX.getD 256 1 = 0 ∧ FD.tables.normF.getD 256 0 = 0x3FF0000000000000 := by
  decide +kernel

def normEntries : List (ℕ × ℕ) := (nums ZIG_NORM_X).zip (nums ZIG_NORM_F)
def expEntries : List (ℕ × ℕ) := (nums ZIG_EXP_X).zip (nums ZIG_EXP_F)

/-- normal table: every tabulated ordinate `F[i]` is the density `exp (-X[i]²/2)` at the tabulated abscissa, to a
relative `10^-13` (the tables carry 18 decimals and were generated in double precision), for all 257 entries -/
theorem norm_ordinates_are_density :
    normEntries.length = 257 ∧
    ∀ p ∈ normEntries, |Real.exp (-((p.1 : ℝ) / 10 ^ 18) ^ 2 / 2) - (p.2 : ℝ) / 10 ^ 18| ≤ (p.2 : ℝ) / 10 ^ 18 / 10 ^ 13 := by
  -- `exp (-x²/2)` at `x = N/10^18` is `exp (-N²/(2·10^36))`; argument reduced by `16`, Taylor degree 19, width `10^-24`
  have hall : (normEntries.all fun p => ExpEncl.entryOk 19 (10 ^ 24) (p.1 * p.1) (2 * 10 ^ 36) 16 p.2) = true := by
    decide +kernel
  refine ⟨by decide +kernel, fun p hp => ?_⟩
  have hs := ExpEncl.entryOk_sound _ _ _ _ _ _ (by decide) (List.all_eq_true.1 hall p hp)
  have e : -((p.1 : ℝ) / 10 ^ 18) ^ 2 / 2 = -(((p.1 * p.1 : ℕ) : ℝ)) / ((2 * 10 ^ 36 : ℕ) : ℝ) := by
    push_cast; ring
  rw [e]; exact hs

theorem exp_ordinates_are_density :
    expEntries.length = 257 ∧
    ∀ p ∈ expEntries, |Real.exp (-((p.1 : ℝ) / 10 ^ 18)) - (p.2 : ℝ) / 10 ^ 18| ≤ (p.2 : ℝ) / 10 ^ 18 / 10 ^ 13 := by
  -- argument reduced by `32`
  have hall : (expEntries.all fun p => ExpEncl.entryOk 19 (10 ^ 24) p.1 (10 ^ 18) 32 p.2) = true := by
    decide +kernel
  refine ⟨by decide +kernel, fun p hp => ?_⟩
  have hs := ExpEncl.entryOk_sound _ _ _ _ _ _ (by decide) (List.all_eq_true.1 hall p hp)
  have e : -((p.1 : ℝ) / 10 ^ 18) = -((p.1 : ℝ)) / ((10 ^ 18 : ℕ) : ℝ) := by
    ring
  rw [e]; exact hs

section acceptance
variable {K : Type} [Field K] [LinearOrder K] [IsStrictOrderedRing K]

/-- one iteration of the loop for layer `i ≥ 1`, abscissa factor `u`, wedge draw `t`:
`some x` = return `x`, `none` = reject and loop -/
def stepPos (x f : ℕ → K) (pdf : K → K) (i : ℕ) (u t : K) : Option K :=
  let X := u * x i
  if X < x (i + 1) then some X
  else if f (i + 1) + (f i - f (i + 1)) * t < pdf X then some X
  else none

/-- an exact table for an antitone density: abscissae strictly decreasing, non-negative, ordinates
equal to the density at the abscissae. The index runs over all of `ℕ`, so `x_anti` and `x_nonneg`
make every abscissa positive: a table that ends in `0` (`norm_table_ok`) does not satisfy this. -/
structure ExactTable (x f : ℕ → K) (pdf : K → K) : Prop where
  x_anti : ∀ i, x (i + 1) < x i
  x_nonneg : ∀ i, 0 ≤ x i
  f_eq : ∀ i, f i = pdf (x i)
  pdf_anti : ∀ a b, 0 ≤ a → a ≤ b → pdf b ≤ pdf a

/-- the point sampled in layer `i`: abscissa `u·x_i`, ordinate between `f_i` and `f_{i+1}` -/
def ordinate (f : ℕ → K) (i : ℕ) (t : K) : K := f (i + 1) + (f i - f (i + 1)) * t

/-- a ziggurat step accepts iff the sampled point lies strictly under the density curve; the
rectangle fast path is exactly the case where that holds whatever the wedge draw is -/
theorem accept_iff_under (x f : ℕ → K) (pdf : K → K) (T : ExactTable x f pdf) (i : ℕ) (u t : K)
    (hu : 0 < u) (ht : 0 < t) (hstrict : f i < f (i + 1)) :
    (stepPos x f pdf i u t).isSome ↔ ordinate f i t < pdf (u * x i) := by
  unfold stepPos ordinate
  simp only
  split
  · rename_i h
    -- in the rectangle the curve is above the layer's top edge, the ordinate strictly below it
    have h1 : f (i + 1) ≤ pdf (u * x i) := T.f_eq (i + 1) ▸ T.pdf_anti _ _ (mul_nonneg hu.le (T.x_nonneg i)) h.le
    have h2 : (f i - f (i + 1)) * t < 0 := mul_neg_of_neg_of_pos (sub_neg.2 hstrict) ht
    exact iff_of_true rfl ((add_lt_of_neg_right _ h2).trans_le h1)
  · split <;> rename_i h2 <;> simp [h2]

omit [IsStrictOrderedRing K] in
theorem stepPos_eq_some (x f : ℕ → K) (pdf : K → K) (i : ℕ) (u t r : K) (h : stepPos x f pdf i u t = some r) :
    r = u * x i := by
  unfold stepPos at h
  simp only at h
  split at h
  · exact (Option.some.inj h).symm
  · split at h
    · exact (Option.some.inj h).symm
    · cases h

theorem accept_value (x f : ℕ → K) (pdf : K → K) (T : ExactTable x f pdf) (i : ℕ) (u t r : K)
    (hu : 0 < u) (hu1 : u < 1) (h : stepPos x f pdf i u t = some r) : r = u * x i ∧ 0 ≤ r ∧ r < x i := by
  have hxi : 0 < x i := lt_of_le_of_lt (T.x_nonneg (i+1)) (T.x_anti i)
  obtain rfl := stepPos_eq_some x f pdf i u t r h
  exact ⟨rfl, mul_nonneg hu.le hxi.le, mul_lt_of_lt_one_left hxi hu1⟩

/-- `abs_lt`, for the symmetric case's test of `|x|` -/
theorem symmetric_test (x1 : K) (X : K) : (|X| < x1) ↔ (-x1 < X ∧ X < x1) := abs_lt

/-- with `l = ln U ≤ 0`: the shapes `R − ln(U)` and `R − ln(U₁)/R` of the two tail results -/
theorem tail_beyond_cutoff (R l : K) (hR : 0 < R) (hl : l ≤ 0) : R ≤ R - l ∧ R ≤ R - l / R :=
  ⟨(le_sub_self_iff R).2 hl, (le_sub_self_iff R).2 (div_nonpos_of_nonpos_of_nonneg hl hR.le)⟩

end acceptance

/-- C16 (4), the law of the layer method for the idealised algorithm (exact reals, exactly uniform draws): `R i` are the
layers - pairwise disjoint, of equal finite area, covering the region under `f` - and conditioning on `under f` is the
rejection loop.  The code's tables meet `hv` only approximately (`norm_table_ok` / `exp_table_ok`); see "Not decided" in
the head. -/
theorem ziggurat_method_law {n : ℕ} (f : ℝ → ℝ) (hf : Measurable f)
    (R : Fin n → Set (ℝ × ℝ)) (hR : ∀ i, MeasurableSet (R i))
    (hd : Pairwise (Function.onFun Disjoint R)) (v : ENNReal) (hv : ∀ i, MeasureTheory.volume (R i) = v) (hvt : v ≠ ⊤)
    (hn : 0 < n) (hcover : ZigLaw.under f ⊆ ⋃ i, R i) :
    MeasureTheory.Measure.map Prod.fst
        (ProbabilityTheory.cond ((n : ENNReal)⁻¹ • ∑ i, ProbabilityTheory.cond (MeasureTheory.volume : MeasureTheory.Measure (ℝ × ℝ)) (R i)) (ZigLaw.under f)) =
      (∫⁻ x, ENNReal.ofReal (f x))⁻¹ • (MeasureTheory.volume : MeasureTheory.Measure ℝ).withDensity (fun x => ENNReal.ofReal (f x)) :=
  ZigLaw.ziggurat_law f hf R hR hd v hv hvt hn hcover

/-- `ZIG_EXP_R - float01().ln()` (the `zero_case` of `exp.rs`), idealised: for a uniform `U` on `(0,1)` the
result is a unit exponential variable conditioned on exceeding `R` -/
theorem exp_tail_sampler_law {R : ℝ} (hR : 0 ≤ R) :
    MeasureTheory.Measure.map (fun u => R - Real.log u) TailLaw.unif =
      ProbabilityTheory.cond (ProbabilityTheory.expMeasure 1) (Set.Ioi R) :=
  TailLaw.exp_tail_sampler_law hR

/-- the loop of `zero_case` in `normal.rs` (Marsaglia's tail method), idealised: with independent uniform
`U1, U2` on `(0,1)`, `x = ln(U1)/R`, `y = ln(U2)`, repeated until `-2 y >= x^2` (conditioning), the result `R - x`
has the standard normal law conditioned on `[R, ∞)` -/
theorem normal_tail_sampler_law {R : ℝ} (hR : 0 < R) :
    MeasureTheory.Measure.map (fun u : ℝ × ℝ => R - Real.log u.1 / R)
        (ProbabilityTheory.cond (TailLaw.unif.prod TailLaw.unif) {u | (Real.log u.1 / R) ^ 2 ≤ -2 * Real.log u.2}) =
      ProbabilityTheory.cond (ProbabilityTheory.gaussianReal 0 1) (Set.Ici R) :=
  TailLaw.normal_tail_sampler_law hR

/-- the draws of the two theorems above are uniform on `(0,1)`, and `-ln` of one is a unit exponential -/
theorem neg_log_uniform_is_exponential :
    MeasureTheory.Measure.map (fun u => -Real.log u) ((MeasureTheory.volume : MeasureTheory.Measure ℝ).restrict (Set.Ioo 0 1)) =
      ProbabilityTheory.expMeasure 1 :=
  TailLaw.neg_log_uniform

/-- the `i == 0` branch, idealised: `x = u * x0` with `u` uniform on `(0,1)`; `x < R` returns `x`, otherwise an independent
sample of the tail law (density `f` beyond `R`) is returned. Under the tail relation of the table, `(x0 - R) f(R) = ∫_R^∞ f`,
the result is the `x`-marginal of a uniform point of the base layer (`baseRegion`: the rectangle `(0,R) x (0, f R)` plus the region
under the curve beyond `R`); `ziggurat_method_law` assumes such a uniform point for layer 0. -/
theorem base_layer_law (f : ℝ → ℝ) (hf : Measurable f) {R x0 : ℝ} (hR : 0 < R) (hx0 : R < x0) (hfR : 0 < f R)
    (htail : BaseLayer.tail f R Set.univ = ENNReal.ofReal ((x0 - R) * f R)) :
    (MeasureTheory.Measure.map (fun u => u * x0) TailLaw.unif).restrict (Set.Iio R) +
        (MeasureTheory.Measure.map (fun u => u * x0) TailLaw.unif) (Set.Ici R) • ((BaseLayer.tail f R Set.univ)⁻¹ • BaseLayer.tail f R) =
      (ENNReal.ofReal (x0 * f R))⁻¹ •
        MeasureTheory.Measure.map Prod.fst ((MeasureTheory.volume : MeasureTheory.Measure (ℝ × ℝ)).restrict (BaseLayer.baseRegion f R)) :=
  BaseLayer.base_layer_law f hf hR hx0 hfR htail

/-- for the exponential density the tail relation is `X[0] = R + 1` (`exp_table_ok`: the translated table satisfies it to `2^-48`): the base layer
of the exponential ziggurat is sampled uniformly -/
theorem exp_base_layer_law {R : ℝ} (hR : 0 < R) :
    (MeasureTheory.Measure.map (fun u => u * (R + 1)) TailLaw.unif).restrict (Set.Iio R) +
        (MeasureTheory.Measure.map (fun u => u * (R + 1)) TailLaw.unif) (Set.Ici R) •
          ((BaseLayer.tail (fun x => Real.exp (-x)) R Set.univ)⁻¹ • BaseLayer.tail (fun x => Real.exp (-x)) R) =
      (ENNReal.ofReal ((R + 1) * Real.exp (-R)))⁻¹ •
        MeasureTheory.Measure.map Prod.fst ((MeasureTheory.volume : MeasureTheory.Measure (ℝ × ℝ)).restrict (BaseLayer.baseRegion (fun x => Real.exp (-x)) R)) :=
  base_layer_law _ measurable_neg.exp hR (lt_add_one R) (Real.exp_pos _)
    (by rw [BaseLayer.exp_tail_mass hR.le, add_sub_cancel_left, one_mul])

end Urandom.C16
