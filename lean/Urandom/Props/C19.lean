import Urandom.Lemmas.BlockSim
/-
C19 - Serialised generator state resumes the identical stream from any point.

Model of the serde attributes on `BlockRngImpl` (`src/rng/block.rs`): `index` is omitted when
`>= 256` and restored as `!0`; `random` is omitted when it equals the default (all zero) and restored
as the default; the ChaCha core is serialised as its 12 words.  The word generators serialise their
whole state (derived serde), and the distribution objects of the property's second sentence are data: neither has a theorem, both are
covered by the correspondence only.  Tied to the code by the `serde` correspondence stream (JSON text, continuation
outputs of original and restored generator, re-serialised text).  The serde helpers of `index` are proved equal to the translated
source in `C03.serde_index_translated` (`Props/C03T.lean`), the hand-written serde of `ChaChaState` in `Props/C19R.lean`.
-/
namespace Urandom.C19
open Urandom.Block

variable {κ : Type}

theorem bufList_getD (buf : Nat → BitVec 8) (i : Nat) (hi : i < 256) : (bufList buf).getD i 0#8 = buf i := by
  simp [bufList, take, hi]

/-- observational equivalence: equal cores, equal buffers, equal index or both out of bounds -/
abbrev ObsEq (s t : BS κ (BitVec 8)) : Prop := Rel id Eq True s t

theorem de_ser (s : BS κ (BitVec 8)) : ObsEq (de (ser s)) s := by
  refine ⟨rfl, ?_, fun i hi _ => ?_⟩
  · simp only [de, ser]
    by_cases h : s.index ≥ 256 <;> simp [h]
  · simp only [de, ser]
    by_cases h : bufList s.buf = List.replicate 256 0#8
    · simp only [h, ↓reduceIte, Option.getD_none]
      rw [← h]; exact bufList_getD _ i hi
    · simp only [h, ↓reduceIte, Option.getD_some]
      exact bufList_getD _ i hi

variable (C : Core κ (BitVec 8))

/-- `ObsEq` is a bisimulation: the buffer is never read while the index is out of bounds -/
theorem run_obs (ops : List Op) {s t : BS κ (BitVec 8)} (h : ObsEq s t) :
    (run C t ops).1 = (run C s ops).1 ∧ ObsEq (run C s ops).2 (run C t ops).2 := by
  simpa using run_rel (Sim.refl C) ops h

/-- C19: serialising a block generator at any point - freshly seeded, mid-block, at an odd buffer offset, after jumps - and deserialising
it yields a generator whose entire future output is the original's -/
theorem roundtrip_same_future (s : BS κ (BitVec 8)) (ops : List Op) :
    (run C (de (ser s)) ops).1 = (run C s ops).1 :=
  (run_obs C ops (de_ser s)).1.symm

theorem ser_congr {s t : BS κ (BitVec 8)} (h : ObsEq s t) : ser s = ser t := by
  have hb : bufList s.buf = bufList t.buf := by
    unfold bufList take
    exact List.map_congr_left fun i hi => h.buf _ (by simp at hi; omega) (.inr trivial)
  have hi := h.index
  simp only [ser, show s.core = t.core from h.core, hb]
  congr 1
  by_cases h1 : s.index ≥ 256
  · have h2 : t.index ≥ 256 := by omega
    simp [h1, h2]
  · rw [show s.index = t.index by omega]

/-- it serialises to the same text again, also after any common continuation (`ser_after`) -/
theorem ser_idempotent (s : BS κ (BitVec 8)) : ser (de (ser s)) = ser s :=
  ser_congr (de_ser s)

theorem ser_after (s : BS κ (BitVec 8)) (ops : List Op) :
    ser (run C (de (ser s)) ops).2 = ser (run C s ops).2 :=
  ser_congr (run_obs C ops (de_ser s)).2

example : (ser (Block.new (0 : Nat) 0#8 : BS Nat (BitVec 8))).index = none := by
  decide

end Urandom.C19
