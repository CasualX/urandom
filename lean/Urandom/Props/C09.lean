import Urandom.Lemmas.Mix
import Urandom.Lemmas.Word
import Urandom.Props.C02
import Urandom.Props.C08
import Urandom.Lemmas.WyStream
/-
C09 - Every 64-bit seed gives a valid, distinct generator.

Model: the `fromSeed` functions of `Urandom.Model.Word` and `Urandom.ChaCha` (tied to
`X::from_seed` / `urandom::seeded` by the `word` and `chacha` correspondence streams, which read
the state back through serde; the constructors as translated from the source are in `Props/C09T.lean`,
on `C01.xoshiro_from_seed_translated` (C01T) and `C02.chacha_from_seed_translated` (C02S)).
Open: the stream clause for ChaCha (see the end of the file).
-/

/-- if the `n`-th 64-bit outputs from two states differ, so do the runs of `n + 1` calls of `next_u64` -/
theorem Urandom.WordGen.runs_differ {σ : Type} (g : WordGen σ) : ∀ (n : Nat) {a b : σ},
    (g.u64 ((fun s => (g.u64 s).2)^[n] a)).1 ≠ (g.u64 ((fun s => (g.u64 s).2)^[n] b)).1 →
    (g.run a (List.replicate (n + 1) .u64)).1 ≠ (g.run b (List.replicate (n + 1) .u64)).1
  | 0, _, _, h, e => h (Out.w64.inj (List.cons.inj e).1)
  | n + 1, _, _, h, e => g.runs_differ n h (List.cons.inj e).2

namespace Urandom.C09

/-- `mix64` is injective on the 64-bit words (explicit left inverse), and `mix64 0 = 0` -/
theorem mix64_injective : Function.Injective SplitMix.mix64 := SplitMix.mix64_injective
theorem mix64_zero : SplitMix.mix64 0#64 = 0#64 := SplitMix.mix64_zero
theorem mix64_has_inverse (z : BitVec 64) : SplitMix.unmix64 (SplitMix.mix64 z) = z := SplitMix.unmix_mix z

theorem xoshiro_fromSeed_words (seed : BitVec 64) :
    Xoshiro.fromSeed seed =
      ⟨SplitMix.mix64 (seed + SplitMix.GAMMA), SplitMix.mix64 (seed + SplitMix.GAMMA + SplitMix.GAMMA),
       SplitMix.mix64 (seed + SplitMix.GAMMA + SplitMix.GAMMA + SplitMix.GAMMA),
       SplitMix.mix64 (seed + SplitMix.GAMMA + SplitMix.GAMMA + SplitMix.GAMMA + SplitMix.GAMMA)⟩ := rfl

/-- For every one of the 2^64 seeds the Xoshiro256 state is not all-zero (the fixed point that
would return zeros forever): the first two words cannot both vanish, because they are `mix64` of
arguments that differ by `γ ≠ 0` and `mix64` is injective. -/
theorem xoshiro_fromSeed_ne_zero (seed : BitVec 64) : Xoshiro.fromSeed seed ≠ Xoshiro.zeroS := fun h =>
  have e := SplitMix.mix64_injective ((congrArg Xoshiro.S.s0 h).trans (congrArg Xoshiro.S.s1 h).symm)
  absurd (BitVec.add_right_eq_self.1 e.symm) (by decide)

/-- Two different seeds never give the same Xoshiro256 state (already the first word differs) -/
theorem xoshiro_fromSeed_injective : Function.Injective Xoshiro.fromSeed := fun _ _ h =>
  (BitVec.add_left_inj _).1 (SplitMix.mix64_injective (congrArg Xoshiro.S.s0 h))

/-- SplitMix64 and Wyrand are seeded with the seed itself -/
theorem splitmix_fromSeed_injective : Function.Injective SplitMix.fromSeed := fun _ _ h => h
theorem wyrand_fromSeed_injective : Function.Injective Wyrand.fromSeed := fun _ _ h => h

/-- SplitMix64: different seeds give different output streams - the first word already differs -/
theorem splitmix_first_output_injective :
    Function.Injective (fun seed => (SplitMix.next (SplitMix.fromSeed seed)).1) := fun _ _ h =>
  (BitVec.add_left_inj _).1 (SplitMix.mix64_injective h)

/-- ChaCha: different seeds give different keys (key words 0 and 1 are the two seed halves) -/
theorem chacha_fromSeed_injective : Function.Injective ChaCha.fromSeed := by
  intro a b h
  rw [C02.fromSeed_layout, C02.fromSeed_layout] at h
  simp only [ChaCha.State.new, ChaCha.State.mk.injEq] at h
  have e := C02.join64_split a
  rw [h.1, h.2.1, C02.join64_split] at e
  exact e.symm

/-- state sequences of different seeds differ forever for the Weyl generators (the state map is a
bijection `x ↦ x + c`) -/
theorem weyl_states_differ (c a b : BitVec 64) (h : a ≠ b) (n : Nat) :
    Spec.iter (fun x => x + c) n a ≠ Spec.iter (fun x => x + c) n b := by
  rw [iter_weyl, iter_weyl]
  exact fun e => h ((BitVec.add_left_inj _).1 e)

def DistinctStreamsFull : Prop :=
  ∀ a b : BitVec 64, a ≠ b → ∃ n, (Xoshiro.gen.run (Xoshiro.fromSeed a) (List.replicate n .u64)).1 ≠
    (Xoshiro.gen.run (Xoshiro.fromSeed b) (List.replicate n .u64)).1

/-- Two different seeds never produce the same stream of 64-bit outputs from the seeded Xoshiro256
(`urandom::seeded`): their initial states differ and are non-zero, and different non-zero states give
different output sequences (`C08.xoshiro_distinct_states_distinct_streams`). -/
theorem xoshiro_distinct_seeds_distinct_streams : DistinctStreamsFull := by
  intro a b hab
  obtain ⟨n, hn⟩ := C08.xoshiro_distinct_states_distinct_streams _ _ (xoshiro_fromSeed_ne_zero a)
    (xoshiro_fromSeed_ne_zero b) fun h => hab (xoshiro_fromSeed_injective h)
  exact ⟨n + 1, Xoshiro.gen.runs_differ n hn⟩

/-- Two different seeds never produce the same stream of 64-bit outputs from Wyrand (the argument is in
`Lemmas/WyStream.lean`). -/
theorem wyrand_distinct_seeds_distinct_streams (a b : BitVec 64) (hab : a ≠ b) :
    ∃ n, (Wyrand.gen.run (Wyrand.fromSeed a) (List.replicate n .u64)).1 ≠
      (Wyrand.gen.run (Wyrand.fromSeed b) (List.replicate n .u64)).1 := by
  obtain ⟨n, hn⟩ := WyStream.outputs_differ a b hab
  exact ⟨n + 1, Wyrand.gen.runs_differ n hn⟩

/-- SplitMix64 at stream level (the first output already differs) -/
theorem splitmix_distinct_seeds_distinct_streams (a b : BitVec 64) (hab : a ≠ b) :
    ∃ n, (SplitMix.gen.run (SplitMix.fromSeed a) (List.replicate n .u64)).1 ≠
      (SplitMix.gen.run (SplitMix.fromSeed b) (List.replicate n .u64)).1 :=
  ⟨1, SplitMix.gen.runs_differ 0 fun h => hab (splitmix_first_output_injective h)⟩

/-
What remains open of the stream clause: ChaCha (a statement about the cipher: that two keys never
give the same keystream is not known to be provable; the initial states - keys - of different seeds
differ, above, and the keystream is the published one, C02).
-/

example : Xoshiro.fromSeed 0#64 ≠ Xoshiro.zeroS := xoshiro_fromSeed_ne_zero _

end Urandom.C09
