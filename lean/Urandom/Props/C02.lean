import Urandom.Lemmas.ChaCha
/-
C02 - ChaCha generators emit the genuine ChaCha keystream on every backend.

Model: `Urandom.ChaCha.block` is the row-wise algorithm coded in `chacha/sse2.rs`, `chacha/slp.rs`
(and, two blocks per register, `chacha/avx2.rs`); tied to the three back ends by the `chacha` and
`slpblock` correspondence streams (SSE2 build, AVX2 build, the portable back end through the hook).
Specification: `specBlock`, Bernstein's block function (column rounds, diagonal rounds,
feed-forward) with the 64-bit counter in words 12-13 and the 64-bit stream id in words 14-15.
The model is proved equal to the translated source in `Props/C02T.lean` (the back ends) and `Props/C02S.lean` (the state struct).
-/
namespace Urandom.C02
open Urandom.ChaCha

/-- C02: the four blocks of a batch are the keystream blocks at counters `c, c+1, c+2, c+3` (mod 2^64) of the generator's key and stream id -/
theorem batch_is_keystream (N : Nat) (s : State) :
    (block N s).1.1 = specBlock N s s.getCounter s.getStream ∧
    (block N s).1.2.1 = specBlock N s (s.getCounter + 1) s.getStream ∧
    (block N s).1.2.2.1 = specBlock N s (s.getCounter + 2) s.getStream ∧
    (block N s).1.2.2.2 = specBlock N s (s.getCounter + 3) s.getStream := by
  simp only [block, rowBlock_eq_spec, specBlock, ← addCounter_eq, setCounter_getCounter, setStream_getStream, and_self]

/-- a batch advances the counter by exactly 4 modulo 2^64 and changes nothing else -/
theorem batch_advances (N : Nat) (s : State) :
    (block N s).2.getCounter = s.getCounter + 4 ∧ (block N s).2.getStream = s.getStream ∧
    (block N s).2 = s.setCounter (s.getCounter + 4) := ⟨getCounter_setCounter .., rfl, rfl⟩

/-- the first block of the next batch is the keystream block at counter `c + 4` -/
theorem next_batch_is_keystream (N : Nat) (s : State) :
    (block N (block N s).2).1.1 = specBlock N s (s.getCounter + 4) s.getStream := by
  rw [(batch_is_keystream N _).1, (batch_advances N s).1]
  rfl

/-- `from_seed` uses the documented layout: key = the two seed halves repeated, counter 1, stream 0 -/
theorem fromSeed_layout (seed : BitVec 64) :
    fromSeed seed = State.new (lo32 seed) (hi32 seed) (lo32 seed) (hi32 seed) (lo32 seed) (hi32 seed) (lo32 seed) (hi32 seed) 1#64 0#64 := by
  have : lo32 (seed &&& 0xffffffff#64) = lo32 seed := by
    have e : (0xffffffff#64).setWidth 32 = BitVec.allOnes 32 := by decide
    simp only [lo32, BitVec.setWidth_and, e, BitVec.and_allOnes]
  simp only [fromSeed, this]

theorem fromSeed_counter_stream (seed : BitVec 64) :
    (fromSeed seed).getCounter = 1#64 ∧ (fromSeed seed).getStream = 0#64 := by
  exact ⟨join64_split _, join64_split _⟩

/-- RFC 7539 §2.3.2 (key 00..1f, block counter 1, nonce 00:00:00:09:00:00:00:4a:00:00:00:00;
the IETF layout's nonce words are words 13-15 here) -/
theorem kat_rfc7539 :
    specBlockOf 20 ⟨0x61707865#32, 0x3320646e#32, 0x79622d32#32, 0x6b206574#32,
      0x03020100#32, 0x07060504#32, 0x0b0a0908#32, 0x0f0e0d0c#32, 0x13121110#32, 0x17161514#32, 0x1b1a1918#32, 0x1f1e1d1c#32,
      0x00000001#32, 0x09000000#32, 0x4a000000#32, 0x00000000#32⟩ =
    ⟨0xe4e7f110#32, 0x15593bd1#32, 0x1fdd0f50#32, 0xc47120a3#32, 0xc7f4d1c7#32, 0x0368c033#32, 0x9aaa2204#32, 0x4e6cd4c3#32,
     0x466482d2#32, 0x09aa9f07#32, 0x05d7c214#32, 0xa2028bd9#32, 0xd19c12b5#32, 0xb94e16de#32, 0xe883d0cb#32, 0x4e3c50a2#32⟩ := by
  decide +kernel

/-- the all-zero key/counter/nonce ChaCha20 vector (`76b8e0ad a0f13d90 …`), through the model's batch -/
theorem kat_zero_key :
    ((block 20 (State.new 0 0 0 0 0 0 0 0 0#64 0#64)).1.1.words.take 4) =
      [0xade0b876#32, 0x903df1a0#32, 0xe56a5d40#32, 0x28bd8653#32] := by
  decide +kernel

end Urandom.C02

/- `C02.getStream_setCounter` under the name `Urandom.ChaChaBase.getStream_setCounter`, which the axiom audit of the C02 check lists -/
namespace Urandom.ChaChaBase
open Urandom.ChaCha

theorem getStream_setCounter (s : State) (c : BitVec 64) : (s.setCounter c).getStream = s.getStream := rfl

end Urandom.ChaChaBase
