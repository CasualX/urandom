import Urandom.Generated.FloatBernoulli
/-!
# C14 for `Bernoulli` / `Random::chance` as translated from the source

`tools/extract_float.py` reads src/distr/bernoulli.rs and `Random::chance` in src/random.rs: `Bernoulli::new(p)` must store `p` as it is,
`chance(p)` must be `distr::Bernoulli::new(p).sample(self)`, and `sample` - one `Float01` draw as f64 compared with the stored `p` - is
translated into the IEEE model's vocabulary.  The model's `bernoulli`, which `Props/C14.lean` is about, is this comparison of the model's
`Float01` draw (itself tied to the source in `Props/C11T.lean`): `bernoulli_translated`.
-/
namespace Urandom.C14
open Urandom.Generated

theorem bernoulli_translated (p : Nat) (ws : Words) :
    bernoulli p ws = (Float01.sample64 ws).map (fun (x, ws') => (FloatD.bernoulli_sample x p, ws')) := by
  unfold bernoulli
  cases Float01.sample64 ws with
  | none => rfl
  | some r => rfl

end Urandom.C14
