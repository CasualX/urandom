import Urandom.Model.Standard
import Urandom.Generated.GlueRandomDistr
import Urandom.Generated.GlueDistr
import Urandom.Generated.GlueStandard
/-!
# `Random::next` / `fill` / `sample` / `coin_flip`, `Samples`, `Map`, `&D`, `Wrapping`, `NonZero*`, tuples as translated (C13; also C11, C14)

`tools/extract_glue.py` translates the current text of the generic entry points through which every distribution is reached (src/random.rs,
src/distr.rs, src/distr/samples.rs) and, of src/distr/standard.rs, the `Wrapping<T>` impl, the `NonZero*` macro body (`loop { if let Some(nz) =
NonZero::new(rand.next()) { break nz; } }`) and the tuple macro (shape + arities).  Proved for every lawful monad and generator: each entry
point is exactly one `sample` of the distribution it names on the same generator (`fill`: one per slot, in slice order); on the model, `fill`
over a primitive type is `seqSample` of that many components and the `NonZero` loop is `nzSample`.
-/
namespace Urandom.C13R
open Urandom.Glue Urandom.Generated.Glue Urandom.Standard

section generic
variable {m : Type → Type} [Monad m] [LawfulMonad m] {σ T U : Type} (R : Rng m σ) (D : Dist m σ T)

/-- every path to a distribution is one `sample` on the same generator -/
theorem entry_points :
    Random.next R D = D.sample R ∧ Random.sample R D = D.sample R ∧ RefDist.sample R D = D.sample R ∧
    Samples.next R D = (some <$> D.sample R) ∧ Standard.wrapping_sample R D = (Wrapping.mk <$> D.sample R) := by
  refine ⟨?_, ?_, ?_, ?_, ?_⟩ <;> simp [Random.next, Random.sample, RefDist.sample, Samples.next, Standard.wrapping_sample]

theorem float01_entry (F : Dist m σ (BitVec 64)) : Random.float01 R F = F.sample R := by simp [Random.float01]

theorem coin_flip_is_next (nx : m Bool) : Random.coin_flip R nx = nx := by simp [Random.coin_flip]

theorem map_sample (M : Glue.Map m σ T U) : Map.sample R M = (M.f <$> M.distr.sample R) := by simp [Map.sample]

/-- `Samples::size_hint` is `(usize::MAX, None)` -/
theorem samples_size_hint (mx : BitVec 64) : Samples.size_hint mx = (mx, none) := rfl

theorem fill_is_one_sample_per_slot (buf : Slice T) : Random.fill R D buf = forEachSlot buf.len.toNat (D.sample R) := by
  simp [Random.fill]

end generic

/-- the tuple impls: arities 0 to 12, each `(sample::<A>(), sample::<B>(), ..)` in order (shape checked by the translator) -/
theorem tuple_arities : tupleArities = List.range 13 := by decide

abbrev DrawM := StateT Words Option

/-- the `Mock` generator as the record of its methods; `fill_bytes` and `jump` panic (nothing below calls them) -/
def mockR : Rng DrawM Words :=
  ⟨Mock.u32, Mock.u64, Mock.f32, Mock.f64, fun _ _ => none, fun _ => none, fun ws => some (ws, ws)⟩

/-- `StandardUniform` for a primitive type of the model as a distribution -/
def primDist (checked : Bool) (p : Prim) : Dist DrawM Words Nat := ⟨fun _ => primSample checked p⟩

theorem forEachSlot_is_seqSample (checked : Bool) (p : Prim) : ∀ (n : Nat) (ws : Words),
    forEachSlot (m := DrawM) n (primSample checked p) ws = seqSample checked (List.replicate n p) ws := by
  intro n
  induction n with
  | zero => intro ws; rfl
  | succ n ih =>
    intro ws
    simp only [forEachSlot, List.replicate_succ, seqSample, bind, StateT.bind]
    cases h : primSample checked p ws with
    | none => rfl
    | some r =>
      obtain ⟨v, ws'⟩ := r
      simp only [Option.bind]
      rw [ih ws']
      cases seqSample checked (List.replicate n p) ws' <;> rfl

/-- `Random::fill` over a primitive type as translated is the model's array sample -/
theorem fill_is_model (checked : Bool) (p : Prim) (buf : Slice Nat) (ws : Words) :
    Random.fill mockR (primDist checked p) buf ws = seqSample checked (List.replicate buf.len.toNat p) ws := by
  rw [fill_is_one_sample_per_slot]
  exact forEachSlot_is_seqSample checked p _ ws

/-- arrays `[T; N]` as translated: `array::from_fn` over one `StandardUniform` sample per element, in index order -/
theorem array_is_model (checked : Bool) (p : Prim) (N : Nat) (ws : Words) :
    Standard.array_sample mockR (primDist checked p) N ws = seqSample checked (List.replicate N p) ws := by
  have h : Standard.array_sample mockR (primDist checked p) N = forEachSlot (m := DrawM) N (primSample checked p) := by
    simp [Standard.array_sample, primDist]
  rw [h]
  exact forEachSlot_is_seqSample checked p N ws

/-- `NonZero::new`: `None` for zero -/
def nzNew (v : Nat) : Option Nat := if v ≠ 0 then some v else none

theorem intSample_cons (bits : Nat) (h : bits ≤ 64) (w : BitVec 64) (ws : Words) : ∃ v, intSample bits (w :: ws) = some (v, ws) := by
  unfold intSample
  split <;> exact ⟨_, rfl⟩

/-- the `NonZero*` loop as translated is the model's `nzSample` (types of at most 64 bits; `rand.next()` is the model's plain integer sample),
within `ws.length` trips -/
theorem nonzero_loop_is_model (bits : Nat) (h : bits ≤ 64) : ∀ (ws : Words) (v : Nat) (ws' : Words), nzSample bits ws = some (v, ws') →
    Standard.nonzero_sample mockR (intSample bits : DrawM Nat) nzNew ws.length ws = some (some v, ws') := by
  intro ws
  induction ws with
  | nil => intro v ws' hm; simp [nzSample] at hm
  | cons w ws ih =>
    intro v ws' hm
    obtain ⟨x, hx⟩ := intSample_cons bits h w ws
    rw [nzSample, hx] at hm
    simp only [Standard.nonzero_sample, List.length_cons, loopUntilSome, bind, StateT.bind, hx, Option.bind] at *
    by_cases hz : x = 0 <;> simp [nzNew, hz] at hm ⊢
    · exact ih v ws' hm
    · obtain ⟨rfl, rfl⟩ := hm; rfl

example : Standard.nonzero_sample mockR (intSample 8 : DrawM Nat) nzNew 3 [0x100#64, 0x200#64, 0x7#64] = some (some 7, []) := by
  decide

end Urandom.C13R
