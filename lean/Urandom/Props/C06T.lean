import Urandom.Model.Reservoir
import Urandom.Generated.FloatSingle
/-!
C06 for `Random::single` as translated from the source.  `tools/extract_float.py` checks the frame of `Random::single` (src/random.rs) - the exact-size shortcut `if upper == Some(len) { let index =
usize::min(len, self.index(len)); return iter.nth(index); }`, then `let mut result = None; let mut denom = 1.0; iter.for_each(|item| { .. });
result` - and translates the closure, one item of the reservoir: `self.chance(1.0 / denom)` is a draw from an abstract generator, the two
outcomes are `result = Some(item)` and `drop(item)`, the counter is `denom += 1.0`, all in f64.  The model's reservoir loop (`Reservoir.loop`,
the function C06's None-iff-empty and membership theorems are about) is proved to be the fold of this step with the model's `chance`,
whenever the model does not run out of words (`single_translated`).  C06's 1/n arithmetic (`reservoir_exact`, `reservoir_fp_bound`) is over
abstract replacement probabilities `q i`, not about this function.
-/
namespace Urandom.C06
open Urandom.IEEE Urandom.FD Urandom.Generated

/-- the model's `chance(p)` (`Bernoulli::new(p).sample`) as a total generator function over the mock words -/
def chanceT (ws : Words) (p : Nat) : Bool × Words :=
  match bernoulli p ws with
  | some (b, ws') => (b, ws')
  | none => (false, ws)

theorem one_translated : FloatD.single_denom0 = Reservoir.one ∧ c b64 1 = Reservoir.one := by decide +kernel

theorem single_loop_translated (items : List Nat) (denom : Nat) (result r' : Option Nat) (ws ws' : Words)
    (h : Reservoir.loop items denom result ws = some (r', ws')) :
    ∃ d', items.foldl (FloatD.single_item chanceT) (denom, result, ws) = (d', r', ws') := by
  fun_induction Reservoir.loop items denom result ws with
  | case1 denom result ws =>
    obtain ⟨rfl, rfl⟩ := Prod.mk.inj (Option.some.inj h)
    exact ⟨denom, rfl⟩
  | case2 => simp at h
  | case3 item rest denom result ws b ws1 hb ih =>
    obtain ⟨d', hd⟩ := ih h
    refine ⟨d', ?_⟩
    rw [List.foldl_cons, ← hd]
    unfold FloatD.single_item chanceT
    simp only [one_translated.2, hb]

theorem single_translated (items : List Nat) (r' : Option Nat) (ws ws' : Words) (h : Reservoir.single items ws = some (r', ws')) :
    ∃ d', items.foldl (FloatD.single_item chanceT) (FloatD.single_denom0, none, ws) = (d', r', ws') := by
  rw [one_translated.1]
  exact single_loop_translated items _ _ _ _ _ h

end Urandom.C06
