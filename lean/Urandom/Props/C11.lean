import Urandom.Model.Standard
import Urandom.Lemmas.Lemire
import Urandom.Lemmas.IEEEFields
/-
C11 - Unit floats: next_f32/f64 in [1,2) on an exact grid, Float01 strictly in (0,1).

Pure bit-level statements about `rngF32`, `rngF64` (`src/rng/util.rs`) and `Float01`
(`src/distr/float01.rs`); the IEEE reading of the bit patterns is `IEEE.decode`.  Tied to the code by the
`f01` / `std` / `word` correspondence streams; proved equal to translated source in `Props/C11T.lean`
(`Float01`) and `Props/C01T.lean` (`rng_f32`, `rng_f64`).
Not stated: the IEEE value of the `f32` `Float01` (`float01_decode` is for `f64` only; for `f32` there are the closed
form `float01_bits32` and the range).
-/
namespace Urandom.C11

theorem shl_or_toNat {n : Nat} (k : Nat) (e x : BitVec n) (hx : x.toNat < 2 ^ k) (he : e.toNat * 2 ^ k < 2 ^ n) :
    ((e <<< k) ||| x).toNat = e.toNat * 2 ^ k + x.toNat := by
  rw [BitVec.toNat_or, BitVec.toNat_shiftLeft, Nat.shiftLeft_eq, Nat.mod_eq_of_lt he, ← Nat.shiftLeft_eq,
    ← Nat.shiftLeft_add_eq_or_of_lt hx, Nat.shiftLeft_eq]

theorem rngF32_toNat (w : BitVec 32) : (rngF32 w).toNat = 0x3F800000 + w.toNat / 2 ^ 9 := by
  rw [rngF32, shl_or_toNat 23 _ _ (by rw [BitVec.toNat_ushiftRight]; omega) (by decide),
    BitVec.toNat_ushiftRight, Nat.shiftRight_eq_div_pow]
  rfl

theorem rngF64_toNat (w : BitVec 64) : (rngF64 w).toNat = 0x3FF0000000000000 + w.toNat / 2 ^ 12 := by
  rw [rngF64, shl_or_toNat 52 _ _ (by rw [BitVec.toNat_ushiftRight]; omega) (by decide),
    BitVec.toNat_ushiftRight, Nat.shiftRight_eq_div_pow]
  rfl

/-- `next_f32 ∈ [1, 2)`: sign 0, exponent field 127, for every word -/
theorem rngF32_range (w : BitVec 32) : 0x3F800000 ≤ (rngF32 w).toNat ∧ (rngF32 w).toNat < 0x40000000 := by
  rw [rngF32_toNat]; omega

/-- `next_f64 ∈ [1, 2)` -/
theorem rngF64_range (w : BitVec 64) :
    0x3FF0000000000000 ≤ (rngF64 w).toNat ∧ (rngF64 w).toNat < 0x4000000000000000 := by
  rw [rngF64_toNat]; omega

theorem decode_normal64 (E r : Nat) (h0 : 1 ≤ E) (h1 : E ≤ 2046) (hr : r < 2 ^ 52) :
    IEEE.decode IEEE.b64 (E * 2 ^ 52 + r) = .fin false (2 ^ 52 + r) ((E : Int) - 1075) := by
  have h : IEEE.decode IEEE.b64 (E * 2 ^ 52 + r) = .fin false (2 ^ 52 + r) ((E : Int) - (1023 : Nat) - (52 : Nat)) :=
    IEEE.decode_normal IEEE.b64 E r (by omega) (show E < 2047 by omega) hr
  rw [h]; congr 1; omega

theorem decode_normal32 (E r : Nat) (h0 : 1 ≤ E) (h1 : E ≤ 254) (hr : r < 2 ^ 23) :
    IEEE.decode IEEE.b32 (E * 2 ^ 23 + r) = .fin false (2 ^ 23 + r) ((E : Int) - 150) := by
  have h : IEEE.decode IEEE.b32 (E * 2 ^ 23 + r) = .fin false (2 ^ 23 + r) ((E : Int) - (127 : Nat) - (23 : Nat)) :=
    IEEE.decode_normal IEEE.b32 E r (by omega) (show E < 255 by omega) hr
  rw [h]; congr 1; omega

/-- the IEEE value of `next_f32`: `(2^23 + m)·2^-23`, `m` the top 23 bits of the word -/
theorem rngF32_decode (w : BitVec 32) :
    IEEE.decode IEEE.b32 (rngF32 w).toNat = .fin false (2 ^ 23 + w.toNat / 2 ^ 9) (-23) := by
  rw [rngF32_toNat]
  exact decode_normal32 127 _ (by decide) (by decide) (by omega)

theorem rngF64_decode (w : BitVec 64) :
    IEEE.decode IEEE.b64 (rngF64 w).toNat = .fin false (2 ^ 52 + w.toNat / 2 ^ 12) (-52) := by
  rw [rngF64_toNat]
  exact decode_normal64 1023 _ (by decide) (by decide) (by omega)

/-- exact grid: each of the `2^23` values `1 + m·2^-23` is hit by exactly the `2^9` words `[m·2^9, (m+1)·2^9)` -/
theorem rngF32_preimage (m : Nat) (w : BitVec 32) :
    (rngF32 w).toNat = 0x3F800000 + m ↔ m * 2 ^ 9 ≤ w.toNat ∧ w.toNat < (m + 1) * 2 ^ 9 := by
  rw [rngF32_toNat, ← shr_preimage]; omega

/-- exact grid: each of the `2^52` values is hit by exactly `2^12` words -/
theorem rngF64_preimage (m : Nat) (w : BitVec 64) :
    (rngF64 w).toNat = 0x3FF0000000000000 + m ↔ m * 2 ^ 12 ≤ w.toNat ∧ w.toNat < (m + 1) * 2 ^ 12 := by
  rw [rngF64_toNat, ← shr_preimage]; omega

/-! ### `next_f32` / `next_f64` of the three word generators and of `Mock` are these two functions of one of their words
(the trait default, which every other generator takes, is `C01R.rng_default_floats`) -/

theorem xoshiro_floats (s : Xoshiro.S) :
    (Xoshiro.gen.f32 s).1 = rngF32 (((Xoshiro.nextPlus s).1 >>> 32).setWidth 32) ∧
    (Xoshiro.gen.f64 s).1 = rngF64 (Xoshiro.nextPlus s).1 ∧
    (Xoshiro.gen.f32 s).2 = Xoshiro.advance s ∧ (Xoshiro.gen.f64 s).2 = Xoshiro.advance s := ⟨rfl, rfl, rfl, rfl⟩

theorem splitmix_floats (s : BitVec 64) :
    (SplitMix.gen.f32 s).1 = rngF32 (((SplitMix.gen.u64 s).1 >>> 32).setWidth 32) ∧
    (SplitMix.gen.f64 s).1 = rngF64 (SplitMix.gen.u64 s).1 := ⟨rfl, rfl⟩

theorem wyrand_floats (s : BitVec 64) :
    (Wyrand.gen.f32 s).1 = rngF32 (((Wyrand.gen.u64 s).1 >>> 32).setWidth 32) ∧
    (Wyrand.gen.f64 s).1 = rngF64 (Wyrand.gen.u64 s).1 := ⟨rfl, rfl⟩

theorem mock_floats (w : BitVec 64) (ws : Words) :
    Mock.f32 (w :: ws) = some (rngF32 (w.setWidth 32), ws) ∧ Mock.f64 (w :: ws) = some (rngF64 w, ws) := ⟨rfl, rfl⟩

theorem clz64_le (w : BitVec 64) : clz64 w ≤ 64 := by unfold clz64; split <;> omega

/-- the leading-zero class `k < 64` is the interval `[2^(63-k), 2^(64-k))` - exactly `2^(63-k)`
words, i.e. probability `2^-(k+1)`; the class `k = 64` is `{0}` -/
theorem clz64_eq_iff (w : BitVec 64) (k : Nat) (hk : k < 64) :
    clz64 w = k ↔ 2 ^ (63 - k) ≤ w.toNat ∧ w.toNat < 2 ^ (64 - k) := by
  unfold clz64
  by_cases h0 : w.toNat = 0
  · simp only [h0, ↓reduceIte]
    have : 0 < 2 ^ (63 - k) := Nat.two_pow_pos _
    omega
  · simp only [h0, ↓reduceIte]
    have hl : w.toNat.log2 < 64 := (Nat.log2_lt h0).2 w.isLt
    have he := Nat.log2_eq_iff (n := w.toNat) (k := 63 - k) h0
    have e2 : 63 - k + 1 = 64 - k := by omega
    rw [e2] at he
    rw [← he]; omega

theorem clz64_eq_64_iff (w : BitVec 64) : clz64 w = 64 ↔ w.toNat = 0 := by
  unfold clz64
  by_cases h0 : w.toNat = 0
  · simp [h0]
  · simp only [h0, ↓reduceIte, iff_false]
    omega

/-- exponent field `1022 - k`, `k` the leading zeros of the first word; mantissa: the top 52 bits of the second -/
theorem float01_bits64 (w₁ w₂ : BitVec 64) :
    Float01.bits64 w₁ w₂ = (1022 - clz64 w₁) * 2 ^ 52 + w₂.toNat / 2 ^ 12 := by
  simp only [Float01.bits64, rngF64_toNat]; omega

theorem float01_bits32 (w₁ w₂ : BitVec 64) :
    Float01.bits32 w₁ w₂ = (126 - clz64 w₁) * 2 ^ 23 + (w₂.toNat % 2 ^ 32) / 2 ^ 9 := by
  simp only [Float01.bits32, rngF32_toNat, BitVec.toNat_setWidth]; omega

/-- `Float01 ∈ (0, 1)` strictly, for every pair of words (all-zero and all-one included): between `2^-65`
(exponent field 958) and the predecessor of `1.0` -/
theorem float01_range64 (w₁ w₂ : BitVec 64) :
    958 * 2 ^ 52 ≤ Float01.bits64 w₁ w₂ ∧ Float01.bits64 w₁ w₂ < 1023 * 2 ^ 52 := by
  rw [float01_bits64]
  have := clz64_le w₁
  constructor <;> omega

theorem float01_range32 (w₁ w₂ : BitVec 64) :
    62 * 2 ^ 23 ≤ Float01.bits32 w₁ w₂ ∧ Float01.bits32 w₁ w₂ < 127 * 2 ^ 23 := by
  rw [float01_bits32]
  have := clz64_le w₁
  constructor <;> omega

/-- in the binade `[2^-(k+1), 2^-k)` -/
theorem float01_decode (w₁ w₂ : BitVec 64) :
    IEEE.decode IEEE.b64 (Float01.bits64 w₁ w₂) =
      .fin false (2 ^ 52 + w₂.toNat / 2 ^ 12) (-53 - (clz64 w₁ : Int)) := by
  have hk := clz64_le w₁
  rw [float01_bits64, decode_normal64 _ _ (by omega) (by omega) (by omega)]
  congr 1; omega

example : Float01.bits64 0#64 0#64 = 958 * 2 ^ 52 ∧ Float01.bits64 (-1#64) (-1#64) = 1023 * 2 ^ 52 - 1 := by decide

end Urandom.C11
