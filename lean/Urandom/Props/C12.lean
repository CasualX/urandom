import Mathlib.Tactic.Linarith
import Mathlib.Tactic.Ring
import Urandom.Model.FloatDistr
import Urandom.Lemmas.IEEEExact
/-
C12 - Uniform float ranges never return a value outside [low, high).

The full statement is false on the code as it is (known findings D2, D2b, D2c): the sampling
formula `u·scale + base` is rounded twice.  What is proved: (1) the formula is right in exact
arithmetic (`exact_in_range`, `exact_reversed`, `exact_equal`); (2) equal finite bounds give exactly that value, for
every input (`equal_bounds_all`, `equal_bounds_eq`); (3) the negation of the property's first sentence on concrete witnesses, by kernel evaluation of the IEEE model (the
implementation returns the same bits - `ufloat` correspondence stream).  The full statement stays
visible as `UniformFloatInRange`.
Model: `Urandom.FD.UniformFloat` (`src/distr/uniform/float.rs`); proved equal to translated source in `Props/C12T.lean`.
-/
namespace Urandom.C12
open Urandom.IEEE Urandom.FD

/-- the property as stated (for `f64`, `low < high`): every sample lies in `[low, high)` and is not NaN -/
def UniformFloatInRange : Prop :=
  ∀ (low high : Nat) (d : UniformFloat) (w : BitVec 64),
    isFinite b64 low = true → isFinite b64 high = true → lt b64 low high = true → isFinite b64 (sub b64 high low) = true →
    UniformFloat.tryNew b64 true low high = .ok d →
    le b64 low (d.sampleU b64 (rngF64 w).toNat) = true ∧ lt b64 (d.sampleU b64 (rngF64 w).toNat) high = true

section exact
variable {K : Type} [Field K] [LinearOrder K] [IsStrictOrderedRing K]

omit [LinearOrder K] [IsStrictOrderedRing K] in
/-- `scale = high - low`, `base = low - scale`, sample `u·scale + base` for a unit float `u ∈ [1, 2)`:
the sample is `low` plus the fraction `u - 1 ∈ [0, 1)` of the width -/
theorem sample_eq (l h u : K) : u * (h - l) + (l - (h - l)) = l + (u - 1) * (h - l) := by ring

theorem exact_in_range (l h u : K) (hlh : l < h) (hu1 : 1 ≤ u) (hu2 : u < 2) :
    l ≤ u * (h - l) + (l - (h - l)) ∧ u * (h - l) + (l - (h - l)) < h := by
  rw [sample_eq]
  have h1 := mul_nonneg (sub_nonneg.2 hu1) (sub_pos.2 hlh).le
  have h2 := mul_lt_mul_of_pos_right (show u - 1 < 1 by linarith) (sub_pos.2 hlh)
  constructor <;> linarith

theorem exact_reversed (l h u : K) (hlh : h < l) (hu1 : 1 ≤ u) (hu2 : u < 2) :
    h < u * (h - l) + (l - (h - l)) ∧ u * (h - l) + (l - (h - l)) ≤ l := by
  rw [sample_eq]
  have h1 := mul_nonneg (sub_nonneg.2 hu1) (sub_pos.2 hlh).le
  have h2 := mul_lt_mul_of_pos_right (show u - 1 < 1 by linarith) (sub_pos.2 hlh)
  constructor <;> linarith

omit [LinearOrder K] [IsStrictOrderedRing K] in
theorem exact_equal (l u : K) : u * (l - l) + (l - (l - l)) = l := by rw [sample_eq, sub_self, mul_zero, add_zero]

end exact

/-- D2, upper bound reached: `Uniform::new(100.0, 101.0)` with the all-ones word returns `101.0`
(`0x4059000000000000 = 100.0`, `0x4059400000000000 = 101.0`) -/
theorem d2_upper_bound_reached :
    ∃ d, UniformFloat.tryNew b64 true 0x4059000000000000 0x4059400000000000 = .ok d ∧
      d.sampleU b64 (rngF64 0xFFFFFFFFFFFFFFFF#64).toNat = 0x4059400000000000 := by
  refine ⟨⟨0x4058C00000000000, 0x3FF0000000000000⟩, by decide +kernel, by decide +kernel⟩

/-- D2, lower bound undercut: `Uniform::new(0.1, 1e16)` with the zero word returns `+0.0 < 0.1`
(`0x3FB999999999999A = 0.1`, `0x4341C37937E08000 = 1e16`) -/
theorem d2_lower_bound_undercut :
    ∃ d, UniformFloat.tryNew b64 true 0x3FB999999999999A 0x4341C37937E08000 = .ok d ∧
      d.sampleU b64 (rngF64 0#64).toNat = 0 ∧ lt b64 0 0x3FB999999999999A = true := by
  refine ⟨⟨_, _⟩, rfl, by decide +kernel, by decide +kernel⟩

/-- hence the property is false of the model (and of the implementation, which returns the same bits) -/
theorem not_uniformFloatInRange : ¬ UniformFloatInRange := by
  intro h
  obtain ⟨d, hd, hs⟩ := d2_upper_bound_reached
  have := (h _ _ d 0xFFFFFFFFFFFFFFFF#64 (by decide +kernel) (by decide +kernel) (by decide +kernel) (by decide +kernel) hd).2
  rw [hs] at this
  exact absurd this (by decide +kernel)

/-- D2b: without the `debug_assertions` check (release builds) finite bounds whose
`low - (high - low)` overflows are accepted with `base = -inf` (`-1e308`, `0.5e308`) -/
theorem d2b_release_accepts_overflowing_base :
    UniformFloat.tryNew b64 true 0xFFE1CCF385EBC8A0 0x7FD1CCF385EBC8A0 = .error .NonFinite ∧
    ∃ d, UniformFloat.tryNew b64 false 0xFFE1CCF385EBC8A0 0x7FD1CCF385EBC8A0 = .ok d ∧ d.base = 0xFFF0000000000000 := by
  refine ⟨by decide +kernel, ⟨_, _⟩, rfl, by decide +kernel⟩

def equalOk (x : Nat) (w : BitVec 64) : Bool :=
  match UniformFloat.tryNew b64 true x x with
  | .ok d => d.sampleU b64 (rngF64 w).toNat == x
  | .error _ => false

def equalWitnesses : Bool :=
  [0x4059000000000000, 0x0000000000000001, 0x7FEFFFFFFFFFFFFF, 0xC008000000000000].all fun x =>
    [0#64, 0xFFFFFFFFFFFFFFFF#64, 0x123456789ABCDEF0#64].all fun w => equalOk x w

/-- tests on witnesses of each class: a normal, a subnormal, a huge and a negative value -/
theorem equal_bounds_witnesses : equalWitnesses = true := by decide +kernel

/-- clause 2: with equal finite bounds (normal, subnormal, zero of either sign, either width) every sample is
that value: `scale = +0`, `base = x`, and `u·scale + base` decodes to `x` (to `+0` for `x = -0`, equal as IEEE
values). Two roundings, both exact. -/
theorem equal_bounds_all (f : Fmt) (hf : f.WF) (checked : Bool) (x u : ℕ) (s : Bool) (m : ℕ) (e : ℤ)
    (hx : decode f x = .fin s m e) (n : ℕ) (g : ℤ) (hu : decode f u = .fin false n g) :
    ∃ d, UniformFloat.tryNew f checked x x = .ok d ∧
      decode f (d.sampleU f u) = (if m = 0 then .fin false 0 f.emin else .fin s m e) := by
  have hc : Canon f (.fin s m e) := hx ▸ decode_canon f x
  -- scale = x - x = +0
  have hscale : decode f (sub f x x) = .fin false 0 f.emin := by
    rw [decode_sub f hf, hx]
    exact (congrArg (round f ·) (addFin_self_neg s m e)).trans (round_zero ..)
  -- base = x - (+0) = x
  have hbase : decode f (sub f x (sub f x x)) = .fin s m e := by
    rw [decode_sub f hf, hscale, hx]
    exact (round_addFin_zero f s m e hc true false).trans (by simp)
  refine ⟨⟨sub f x (sub f x x), sub f x x⟩, ?_, ?_⟩
  · simp [UniformFloat.tryNew, isFinite, hbase, hscale, Val.isFinite]
  · -- u · (+0) = +0, and (+0) + x = x (or +0 for x = -0)
    rw [UniformFloat.sampleU, decode_add f hf, decode_mul f hf, hu, hscale, hbase]
    simp only [Val.mulE, Nat.mul_zero, round_zero, Val.addE]
    rw [addFin_comm, round_addFin_zero f s m e hc]
    split
    · subst m; rw [canon_zero hc]; simp
    · rfl

/-- in IEEE terms: the sample compares equal to the bound -/
theorem equal_bounds_eq (f : Fmt) (hf : f.WF) (checked : Bool) (x u : ℕ) (s : Bool) (m : ℕ) (e : ℤ)
    (hx : decode f x = .fin s m e) (n : ℕ) (g : ℤ) (hu : decode f u = .fin false n g) :
    ∃ d, UniformFloat.tryNew f checked x x = .ok d ∧ IEEE.eq f (d.sampleU f u) x = true := by
  obtain ⟨d, h1, h2⟩ := equal_bounds_all f hf checked x u s m e hx n g hu
  refine ⟨d, h1, ?_⟩
  unfold IEEE.eq
  rw [h2, hx]
  by_cases hm : m = 0
  · subst hm; simp [Val.eq, Val.finEq]
  · rw [if_neg hm]; simp [Val.eq, Val.finEq]

/-- non-vacuity: 100.0 and a unit float decode to finite values -/
example : decode b64 0x4059000000000000 = .fin false 0x19000000000000 (-46) ∧
    decode b64 (rngF64 0x123456789ABCDEF0#64).toNat = .fin false 0x1123456789ABCD (-52) := by decide +kernel

end Urandom.C12
