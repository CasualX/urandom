import Urandom.Model.Block
import Urandom.Model.System
import Urandom.Model.Draw
import Urandom.Generated.GlueRandom
import Urandom.Generated.GlueRng
import Urandom.Generated.Scalar
import Urandom.Props.C10T
/-!
# The forwarding layer as translated from the source (C01, C08, C10; also a theorem module of C03, C11, C17)

`tools/extract_glue.py` translates, on every run, the current text of the methods that only hand a call on - `Random<R>`'s wrappers, the default
`next_f32` / `next_f64` of `Rng`, the typed byte wrappers of util.rs, `ChaCha<N>`'s `Rng` impl, the word generators' `fill_bytes`,
`BlockRngImpl::jump`, `System::fill_bytes` / `jump` - into `do` blocks over an arbitrary monad (`Generated/Glue*.lean`).  Proved: for every lawful
monad each wrapper is exactly the call it forwards; on the model's word generators `split` is `WordGen.step`, the byte fills store
`rngFillWrites`, the float defaults are `g.f32` / `g.f64`; the two `jump`s are the model's.  `read_to_end` / `read_to_string` of `io::Read for Random<R>` only panic: translated, no theorem.
-/
namespace Urandom.C01R
open Urandom.Glue Urandom.Generated Urandom.Generated.Glue

section generic
variable {m : Type → Type} [Monad m] [LawfulMonad m] {σ : Type} (R : Rng m σ)

theorem random_forwards :
    Random.next_u32 R = R.next_u32 ∧ Random.next_u64 R = R.next_u64 ∧ Random.next_f32 R = R.next_f32 ∧ Random.next_f64 R = R.next_f64 ∧
    Random.jump R = R.jump := by
  refine ⟨?_, ?_, ?_, ?_, ?_⟩ <;> simp [Random.next_u32, Random.next_u64, Random.next_f32, Random.next_f64, Random.jump]

theorem random_split : Random.split R = (R.clone >>= fun cur => R.jump >>= fun _ => pure cur) := by
  simp [Random.split]

theorem random_fill_bytes (buf : Pod) :
    Random.fill_bytes R util.fill_bytes buf = (R.fill_bytes buf.size_of_val >>= fun _ => pure buf) ∧
    Random.fill_bytes_uninit R util.fill_bytes_uninit buf = (R.fill_bytes buf.size_of_val >>= fun _ => pure buf) := by
  constructor <;> simp [Random.fill_bytes, Random.fill_bytes_uninit, util.fill_bytes, util.fill_bytes_uninit, from_raw_parts_mut]

/-- one `Rng::fill_bytes` call whatever `size_of::<T>()` is: no word-sized shortcut -/
theorem random_random_bytes (sizeT : BitVec 64) :
    Random.random_bytes R (fun R => util.random_bytes R sizeT util.fill_bytes_uninit) = (R.fill_bytes sizeT >>= fun _ => pure (uninit sizeT)) := by
  simp [Random.random_bytes, util.random_bytes, util.fill_bytes_uninit, from_raw_parts_mut, from_mut, uninit, Pod.assume_init]

theorem util_getrandom (sizeT : BitVec 64) (ge : Pod → m Unit) :
    util.getrandom sizeT ge = (ge (uninit sizeT) >>= fun _ => pure (uninit sizeT)) := by
  simp [util.getrandom, from_mut, uninit, Pod.assume_init]

theorem rng_default_floats (f32 : BitVec 32 → BitVec 32) (f64 : BitVec 64 → BitVec 64) :
    RngDefault.next_f32 R f32 = (f32 <$> R.next_u32) ∧ RngDefault.next_f64 R f64 = (f64 <$> R.next_u64) := by
  constructor <;> simp [RngDefault.next_f32, RngDefault.next_f64]

theorem random_io_read (fb : Slice (BitVec 8) → m (Slice (BitVec 8))) (buf : Slice (BitVec 8)) :
    Random.io_read R fb buf = (fb buf >>= fun _ => pure (.ok buf.len)) ∧
    Random.io_read_exact R fb buf = (fb buf >>= fun _ => pure (.ok ())) := by
  constructor <;> simp [Random.io_read, Random.io_read_exact]

theorem chacha_forwards (L : BitVec 64) :
    ChaCha.next_u32 R = R.next_u32 ∧ ChaCha.next_u64 R = R.next_u64 ∧ ChaCha.fill_bytes R L = R.fill_bytes L ∧ ChaCha.jump R = R.jump := by
  refine ⟨?_, ?_, ?_, ?_⟩ <;> simp [ChaCha.next_u32, ChaCha.next_u64, ChaCha.fill_bytes, ChaCha.jump]

theorem system_fill_bytes (ge : BitVec 64 → m Unit) (L : BitVec 64) : System.fill_bytes ge L = ge L := by
  simp [System.fill_bytes]

/-- `rfb` stands for `util::rng_fill_bytes` on the snapshot, `asg` for writing the snapshot back -/
theorem wordgen_fill_bytes_forwards (rfb : σ → BitVec 64 → m σ) (asg : σ → m Unit) (L : BitVec 64) :
    ∀ F ∈ [Xoshiro256.fill_bytes, Wyrand.fill_bytes, SplitMix64.fill_bytes], F R rfb asg L = (R.clone >>= fun rng => rfb rng L >>= asg) := by
  simp [Xoshiro256.fill_bytes, Wyrand.fill_bytes, SplitMix64.fill_bytes]

end generic

/-- only Xoshiro256 defines its own float methods, all others take the trait defaults; every `impl Rng` defines the other four methods itself -/
theorem float_overrides :
    (rngImpls.filter (fun i => i.2.2.contains "next_f32" || i.2.2.contains "next_f64")).map (fun i => i.2.1) = ["Xoshiro256"] ∧
    rngImpls.all (fun i => ["fill_bytes", "jump", "next_u32", "next_u64"].all i.2.2.contains) = true := by decide +kernel

section wordgen
variable {σ : Type} (g : WordGen σ)

/-- state of the instantiation: the generator and the log of stores into the destination of a byte fill -/
abbrev WS (σ : Type) := σ × List PtrWrite

/-- the model's word generator as a generator record over `StateM`: `fill_bytes` is the TRANSLATED `rng_fill_bytes` (the stores are logged) -/
def ofWordGen : Rng (StateM (WS σ)) σ where
  next_u32 := fun s => ((g.u32 s.1).1, ((g.u32 s.1).2, s.2))
  next_u64 := fun s => ((g.u64 s.1).1, ((g.u64 s.1).2, s.2))
  next_f32 := fun s => ((g.f32 s.1).1, ((g.f32 s.1).2, s.2))
  next_f64 := fun s => ((g.f64 s.1).1, ((g.f64 s.1).2, s.2))
  fill_bytes := fun L s => ((), ((Effect.rng_fill_bytes g.u64 s.1 L).2.1, s.2 ++ (Effect.rng_fill_bytes g.u64 s.1 L).1))
  jump := fun s => ((), (g.jump s.1, s.2))
  clone := fun s => (s.1, s)

/-- `util::rng_fill_bytes(&mut rng, buf)` on a local copy `rng` (the translated function; its stores are logged) and `*self = rng` -/
def fillOn : σ → BitVec 64 → StateM (WS σ) σ :=
  fun rng L s => ((Effect.rng_fill_bytes g.u64 rng L).2.1, (s.1, s.2 ++ (Effect.rng_fill_bytes g.u64 rng L).1))
def assign (_g : WordGen σ) : σ → StateM (WS σ) Unit := fun rng s => ((), (rng, s.2))

-- what follows is about the wrappers: left unsealed, the unifier unfolds the translated loop of `rng_fill_bytes`, which is slow to check
seal Effect.rng_fill_bytes

/-- `split` on a word generator is the model's: the child is the state as it was, the parent one jump further -/
theorem split_is_model (s : σ) (log : List PtrWrite) :
    Random.split (ofWordGen g) (s, log) = (s, (g.jump s, log)) ∧
    g.step s .split = (.child (g.u64 (Random.split (ofWordGen g) (s, log)).1).1, (Random.split (ofWordGen g) (s, log)).2.1) := ⟨rfl, rfl⟩

/-- the word generators' `fill_bytes` is the model's fill for every length below 2^64, the empty destination (no draw) included -/
theorem wordgen_fill_bytes_is_model (s : σ) (L : BitVec 64) :
    ∀ F ∈ [Xoshiro256.fill_bytes, Wyrand.fill_bytes, SplitMix64.fill_bytes],
      ((F (ofWordGen g) (fillOn g) (assign g) L (s, [])).2.1 = (rngFillWrites g s 0 L.toNat).2 ∧
       (F (ofWordGen g) (fillOn g) (assign g) L (s, [])).2.2.map C10.toWrite = (rngFillWrites g s 0 L.toNat).1) := by
  have h := C10.rng_fill_bytes_translated g s L
  intro F hF
  rw [wordgen_fill_bytes_forwards _ _ _ _ F hF]
  exact ⟨h.2.2.2, h.2.2.1⟩

/-- the word generator as `Random<G>` sees it: its `fill_bytes` is the translated clone / `rng_fill_bytes` / write-back wrapper
(`Xoshiro256`'s for every `g`: the three wrappers are equal, `wordgen_fill_bytes_forwards`) -/
def ofWordGenW : Rng (StateM (WS σ)) σ :=
  { ofWordGen g with fill_bytes := fun L => Xoshiro256.fill_bytes (ofWordGen g) (fillOn g) (assign g) L }

/-- end to end from `Random::fill_bytes(buf)` to the stores, every layer as translated (`Random`'s wrapper, `util::fill_bytes`'s cast to bytes, the
generator's clone / fill / write-back, `rng_fill_bytes`' pointer loop) -/
theorem api_fill_bytes_is_model (s : σ) (buf : Pod) :
    (Random.fill_bytes (ofWordGenW g) util.fill_bytes buf (s, [])).1 = buf ∧
    (Random.fill_bytes (ofWordGenW g) util.fill_bytes buf (s, [])).2.1 = (rngFillWrites g s 0 buf.size_of_val.toNat).2 ∧
    (Random.fill_bytes (ofWordGenW g) util.fill_bytes buf (s, [])).2.2.map C10.toWrite = (rngFillWrites g s 0 buf.size_of_val.toNat).1 := by
  have h := wordgen_fill_bytes_is_model g s buf.size_of_val Xoshiro256.fill_bytes (by simp)
  exact ⟨rfl, h.1, h.2⟩

theorem wordgen_fill_empty (s : σ) : (rngFillWrites g s 0 0) = ([], s) := by
  unfold rngFillWrites; simp

theorem default_floats_splitmix (s : BitVec 64) (log : List PtrWrite) :
    RngDefault.next_f32 (ofWordGen SplitMix.gen) Scalar.util.rng_f32 (s, log) = ((SplitMix.gen.f32 s).1, ((SplitMix.gen.f32 s).2, log)) ∧
    RngDefault.next_f64 (ofWordGen SplitMix.gen) Scalar.util.rng_f64 (s, log) = ((SplitMix.gen.f64 s).1, ((SplitMix.gen.f64 s).2, log)) ∧
    RngDefault.next_f32 (ofWordGen Wyrand.gen) Scalar.util.rng_f32 (s, log) = ((Wyrand.gen.f32 s).1, ((Wyrand.gen.f32 s).2, log)) ∧
    RngDefault.next_f64 (ofWordGen Wyrand.gen) Scalar.util.rng_f64 (s, log) = ((Wyrand.gen.f64 s).1, ((Wyrand.gen.f64 s).2, log)) := ⟨rfl, rfl, rfl, rfl⟩

end wordgen

/-- the `Mock` generator of `Model/Draw.lean` as a generator record over `StateT Words Option` (= `Draw`); `fill_bytes` and `jump` are stubs
(nothing below calls them) -/
def ofMock : Rng (StateT Words Option) Words where
  next_u32 := Mock.u32
  next_u64 := Mock.u64
  next_f32 := Mock.f32
  next_f64 := Mock.f64
  fill_bytes := fun _ _ => none
  jump := fun _ => none
  clone := fun ws => some (ws, ws)

theorem mock_default_floats :
    RngDefault.next_f32 ofMock Scalar.util.rng_f32 = Mock.f32 ∧ RngDefault.next_f64 ofMock Scalar.util.rng_f64 = Mock.f64 := by
  constructor <;> funext ws <;> cases ws <;> rfl

section block
variable {κ β : Type} (C : Block.Core κ β)

/-- `BlockRngImpl::jump`: the core jumps, then the index becomes `!0` (the buffer is discarded) -/
theorem block_jump_is_model (s : Block.BS κ β) :
    (BlockRngImpl.jump (m := StateM (Block.BS κ β)) (σ := Unit)
        ⟨fun s => (0, s), fun s => (0, s), fun s => (0, s), fun s => (0, s), fun _ s => ((), s), fun s => ((), { s with core := C.jmp s.core }), fun s => ((), s)⟩
        (fun v s => ((), { s with index := v.toNat })) s).2
      = Block.jump C s := rfl

/-- `System::jump`: the index becomes `!0` -/
theorem system_jump_is_model {α : Type} (L : SystemGen.Labels α) (N : Nat) (s : SystemGen.St α) :
    (System.jump (m := StateM (SystemGen.St α)) (fun v s => ((), { s with index := v.toNat })) s).2 = (SystemGen.step L N s .jump).2 := rfl

end block

end Urandom.C01R
