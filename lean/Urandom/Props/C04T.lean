import Urandom.Lemmas.UniformIntT
import Urandom.Generated.ScalarUniformInt
/-
C04 (second module) - the integer sampler as translated from the source.

`tools/extract_scalar.py` expands every 64-bit-target invocation of `impl_uniform_int!` (`src/distr/uniform/int.rs`) and translates
`Distribution::sample` into `Urandom.Generated.Scalar.uniform_int` on every run: the lets before the loop are `sample_init_<T>`, one trip
round the `loop` is `sample_iter_<T>` (a function of the fields, the loop variables and the one word drawn at the top of the trip;
`break e` is `.inl e`, another round `.inr`).  Each is proved to be the model's `iteration`, for every stored range, zone and drawn
word: a changed threshold formula, comparison, cast or multiply in `sample` breaks these proofs.
-/
namespace Urandom.C04
open Urandom.Generated Urandom.UniformIntT

theorem wmul32_translated (a b : BitVec 32) : Scalar.uniform_int.wmul32 a b = wmul 32 a b := rfl
theorem wmul64_translated (a b : BitVec 64) : Scalar.uniform_int.wmul64 a b = wmul 64 a b := rfl

/-- the lets before the loop widen `self.range` to the drawn word and start with `zone = range`; one trip round the loop is the model's
`iteration`.  The first conjunct is `sample_init_<T>` unfolded (a pair of the widened range), the second `sample_iter_<T>` unfolded
(`iterBV`): the ten generated definitions are instances by unfolding, which is how the theorems below use it. -/
theorem sample_translated (t : IntTy) (hNL : t.bits ≤ t.wbits) (d : UniformInt) (hr : d.range < 2 ^ t.bits)
    (zone v : Nat) (hz : zone < 2 ^ t.wbits) (hv : v < 2 ^ t.wbits) :
    ((BitVec.ofNat t.bits d.range).setWidth t.wbits, (BitVec.ofNat t.bits d.range).setWidth t.wbits)
      = (BitVec.ofNat t.wbits d.range, BitVec.ofNat t.wbits d.range) ∧
    iterBV t.bits t.wbits (BitVec.ofNat t.bits d.base) (BitVec.ofNat t.wbits d.range) (BitVec.ofNat t.wbits zone) (BitVec.ofNat t.wbits v)
      = liftR t.bits t.wbits (UniformInt.iteration t d zone v) := by
  have e : (BitVec.ofNat t.bits d.range).setWidth t.wbits = BitVec.ofNat t.wbits d.range := by
    apply BitVec.eq_of_toNat_eq
    rw [BitVec.toNat_setWidth, BitVec.toNat_ofNat, BitVec.toNat_ofNat, Nat.mod_eq_of_lt hr]
  exact ⟨by rw [e], iterBV_model t hNL d hr zone v hz hv⟩

theorem sample_i8_translated (d : UniformInt) (hr : d.range < 2 ^ 8) (zone v : Nat) (hz : zone < 2 ^ 32) (hv : v < 2 ^ 32) :
    Scalar.uniform_int.sample_init_i8 (BitVec.ofNat 8 d.base) (BitVec.ofNat 8 d.range) = (BitVec.ofNat 32 d.range, BitVec.ofNat 32 d.range) ∧
    Scalar.uniform_int.sample_iter_i8 (BitVec.ofNat 8 d.base) (BitVec.ofNat 8 d.range) (BitVec.ofNat 32 d.range) (BitVec.ofNat 32 zone) (BitVec.ofNat 32 v)
      = liftR 8 32 (UniformInt.iteration IntTy.i8 d zone v) :=
  sample_translated IntTy.i8 (by decide) d hr zone v hz hv

theorem sample_u8_translated (d : UniformInt) (hr : d.range < 2 ^ 8) (zone v : Nat) (hz : zone < 2 ^ 32) (hv : v < 2 ^ 32) :
    Scalar.uniform_int.sample_init_u8 (BitVec.ofNat 8 d.base) (BitVec.ofNat 8 d.range) = (BitVec.ofNat 32 d.range, BitVec.ofNat 32 d.range) ∧
    Scalar.uniform_int.sample_iter_u8 (BitVec.ofNat 8 d.base) (BitVec.ofNat 8 d.range) (BitVec.ofNat 32 d.range) (BitVec.ofNat 32 zone) (BitVec.ofNat 32 v)
      = liftR 8 32 (UniformInt.iteration IntTy.u8 d zone v) :=
  sample_translated IntTy.u8 (by decide) d hr zone v hz hv

theorem sample_i16_translated (d : UniformInt) (hr : d.range < 2 ^ 16) (zone v : Nat) (hz : zone < 2 ^ 32) (hv : v < 2 ^ 32) :
    Scalar.uniform_int.sample_init_i16 (BitVec.ofNat 16 d.base) (BitVec.ofNat 16 d.range) = (BitVec.ofNat 32 d.range, BitVec.ofNat 32 d.range) ∧
    Scalar.uniform_int.sample_iter_i16 (BitVec.ofNat 16 d.base) (BitVec.ofNat 16 d.range) (BitVec.ofNat 32 d.range) (BitVec.ofNat 32 zone) (BitVec.ofNat 32 v)
      = liftR 16 32 (UniformInt.iteration IntTy.i16 d zone v) :=
  sample_translated IntTy.i16 (by decide) d hr zone v hz hv

theorem sample_u16_translated (d : UniformInt) (hr : d.range < 2 ^ 16) (zone v : Nat) (hz : zone < 2 ^ 32) (hv : v < 2 ^ 32) :
    Scalar.uniform_int.sample_init_u16 (BitVec.ofNat 16 d.base) (BitVec.ofNat 16 d.range) = (BitVec.ofNat 32 d.range, BitVec.ofNat 32 d.range) ∧
    Scalar.uniform_int.sample_iter_u16 (BitVec.ofNat 16 d.base) (BitVec.ofNat 16 d.range) (BitVec.ofNat 32 d.range) (BitVec.ofNat 32 zone) (BitVec.ofNat 32 v)
      = liftR 16 32 (UniformInt.iteration IntTy.u16 d zone v) :=
  sample_translated IntTy.u16 (by decide) d hr zone v hz hv

theorem sample_i32_translated (d : UniformInt) (hr : d.range < 2 ^ 32) (zone v : Nat) (hz : zone < 2 ^ 64) (hv : v < 2 ^ 64) :
    Scalar.uniform_int.sample_init_i32 (BitVec.ofNat 32 d.base) (BitVec.ofNat 32 d.range) = (BitVec.ofNat 64 d.range, BitVec.ofNat 64 d.range) ∧
    Scalar.uniform_int.sample_iter_i32 (BitVec.ofNat 32 d.base) (BitVec.ofNat 32 d.range) (BitVec.ofNat 64 d.range) (BitVec.ofNat 64 zone) (BitVec.ofNat 64 v)
      = liftR 32 64 (UniformInt.iteration IntTy.i32 d zone v) :=
  sample_translated IntTy.i32 (by decide) d hr zone v hz hv

theorem sample_u32_translated (d : UniformInt) (hr : d.range < 2 ^ 32) (zone v : Nat) (hz : zone < 2 ^ 64) (hv : v < 2 ^ 64) :
    Scalar.uniform_int.sample_init_u32 (BitVec.ofNat 32 d.base) (BitVec.ofNat 32 d.range) = (BitVec.ofNat 64 d.range, BitVec.ofNat 64 d.range) ∧
    Scalar.uniform_int.sample_iter_u32 (BitVec.ofNat 32 d.base) (BitVec.ofNat 32 d.range) (BitVec.ofNat 64 d.range) (BitVec.ofNat 64 zone) (BitVec.ofNat 64 v)
      = liftR 32 64 (UniformInt.iteration IntTy.u32 d zone v) :=
  sample_translated IntTy.u32 (by decide) d hr zone v hz hv

theorem sample_i64_translated (d : UniformInt) (hr : d.range < 2 ^ 64) (zone v : Nat) (hz : zone < 2 ^ 64) (hv : v < 2 ^ 64) :
    Scalar.uniform_int.sample_init_i64 (BitVec.ofNat 64 d.base) (BitVec.ofNat 64 d.range) = (BitVec.ofNat 64 d.range, BitVec.ofNat 64 d.range) ∧
    Scalar.uniform_int.sample_iter_i64 (BitVec.ofNat 64 d.base) (BitVec.ofNat 64 d.range) (BitVec.ofNat 64 d.range) (BitVec.ofNat 64 zone) (BitVec.ofNat 64 v)
      = liftR 64 64 (UniformInt.iteration IntTy.i64 d zone v) :=
  sample_translated IntTy.i64 (by decide) d hr zone v hz hv

theorem sample_u64_translated (d : UniformInt) (hr : d.range < 2 ^ 64) (zone v : Nat) (hz : zone < 2 ^ 64) (hv : v < 2 ^ 64) :
    Scalar.uniform_int.sample_init_u64 (BitVec.ofNat 64 d.base) (BitVec.ofNat 64 d.range) = (BitVec.ofNat 64 d.range, BitVec.ofNat 64 d.range) ∧
    Scalar.uniform_int.sample_iter_u64 (BitVec.ofNat 64 d.base) (BitVec.ofNat 64 d.range) (BitVec.ofNat 64 d.range) (BitVec.ofNat 64 zone) (BitVec.ofNat 64 v)
      = liftR 64 64 (UniformInt.iteration IntTy.u64 d zone v) :=
  sample_translated IntTy.u64 (by decide) d hr zone v hz hv

theorem sample_isize_translated (d : UniformInt) (hr : d.range < 2 ^ 64) (zone v : Nat) (hz : zone < 2 ^ 64) (hv : v < 2 ^ 64) :
    Scalar.uniform_int.sample_init_isize (BitVec.ofNat 64 d.base) (BitVec.ofNat 64 d.range) = (BitVec.ofNat 64 d.range, BitVec.ofNat 64 d.range) ∧
    Scalar.uniform_int.sample_iter_isize (BitVec.ofNat 64 d.base) (BitVec.ofNat 64 d.range) (BitVec.ofNat 64 d.range) (BitVec.ofNat 64 zone) (BitVec.ofNat 64 v)
      = liftR 64 64 (UniformInt.iteration IntTy.isize d zone v) :=
  sample_translated IntTy.isize (by decide) d hr zone v hz hv

theorem sample_usize_translated (d : UniformInt) (hr : d.range < 2 ^ 64) (zone v : Nat) (hz : zone < 2 ^ 64) (hv : v < 2 ^ 64) :
    Scalar.uniform_int.sample_init_usize (BitVec.ofNat 64 d.base) (BitVec.ofNat 64 d.range) = (BitVec.ofNat 64 d.range, BitVec.ofNat 64 d.range) ∧
    Scalar.uniform_int.sample_iter_usize (BitVec.ofNat 64 d.base) (BitVec.ofNat 64 d.range) (BitVec.ofNat 64 d.range) (BitVec.ofNat 64 zone) (BitVec.ofNat 64 v)
      = liftR 64 64 (UniformInt.iteration IntTy.usize d zone v) :=
  sample_translated IntTy.usize (by decide) d hr zone v hz hv

/-! The constructors `try_new` / `try_new_inclusive`: `some (base, range)` = `Ok(UniformInt { base, range })`, `none` =
`Err(UniformError::EmptyRange)`; the ordering of `low` and `high` is the type's own (signed types compare as two's-complement values). -/

def liftC {w : Nat} : Option (BitVec w × BitVec w) → Except UniformError UniformInt
  | none => .error .EmptyRange
  | some (b, r) => .ok ⟨b.toNat, r.toNat⟩

/-- the shape every instantiation of the two constructors has (`signed`: the ordering used, `incl`: `+ 1`) -/
def ctorBV {w : Nat} (signed incl : Bool) (low high : BitVec w) : Option (BitVec w × BitVec w) :=
  if (if signed then (if incl then BitVec.slt high low else BitVec.sle high low) else (if incl then decide (low > high) else decide (low ≥ high)))
  then none else some (low, if incl then (high - low) + BitVec.ofNat w 1 else high - low)

theorem toInt_model (t : IntTy) {w : Nat} (hw : t.bits = w) (x : BitVec w) :
    t.toInt x.toNat = if t.signed then x.toInt else (x.toNat : Int) := by
  unfold IntTy.toInt IntTy.M
  rw [hw, BitVec.toInt_eq_toNat_cond]

theorem ctorBV_model (t : IntTy) {w : Nat} (hw : t.bits = w) (hw0 : 0 < w) (incl : Bool) (lo hi : BitVec w) :
    liftC (ctorBV t.signed incl lo hi) = UniformInt.tryNew t lo.toNat hi.toNat incl := by
  have hM : t.M = 2 ^ w := by unfold IntTy.M; rw [hw]
  have h1 : (1 : Nat) < 2 ^ w := Nat.one_lt_two_pow (by omega)
  have hsub : (hi - lo).toNat = wsub (2 ^ w) hi.toNat lo.toNat := by
    unfold wsub; rw [BitVec.toNat_sub]; congr 1; omega
  have hadd : ((hi - lo) + BitVec.ofNat w 1).toNat = wadd (2 ^ w) (wsub (2 ^ w) hi.toNat lo.toNat) 1 := by
    unfold wadd; rw [BitVec.toNat_add, hsub, toNat_ofNat_lt h1]
  -- the four orderings of the code are the model's comparisons of typed values
  have hc : (if t.signed then (if incl then BitVec.slt hi lo else BitVec.sle hi lo) else (if incl then decide (lo > hi) else decide (lo ≥ hi)))
      = if incl then decide (t.toInt lo.toNat > t.toInt hi.toNat) else decide (t.toInt lo.toNat ≥ t.toInt hi.toNat) := by
    rw [toInt_model t hw lo, toInt_model t hw hi]
    cases t.signed <;> cases incl <;>
      simp only [Bool.false_eq_true, if_false, if_true, BitVec.slt, BitVec.sle, gt_iff_lt, ge_iff_le, BitVec.lt_def, BitVec.le_def,
        Int.ofNat_lt, Int.ofNat_le]
  unfold UniformInt.tryNew ctorBV
  rw [hc, hM]
  cases incl <;> simp only [Bool.false_eq_true, if_false, if_true, decide_eq_true_eq] <;> split <;> simp only [liftC, hsub, hadd]

theorem ctor_i8_translated (lo hi : BitVec 8) :
    liftC (Scalar.uniform_int.try_new_i8 lo hi) = UniformInt.tryNew IntTy.i8 lo.toNat hi.toNat false ∧
    liftC (Scalar.uniform_int.try_new_inclusive_i8 lo hi) = UniformInt.tryNew IntTy.i8 lo.toNat hi.toNat true :=
  ⟨ctorBV_model IntTy.i8 rfl (by decide) false lo hi, ctorBV_model IntTy.i8 rfl (by decide) true lo hi⟩

theorem ctor_u8_translated (lo hi : BitVec 8) :
    liftC (Scalar.uniform_int.try_new_u8 lo hi) = UniformInt.tryNew IntTy.u8 lo.toNat hi.toNat false ∧
    liftC (Scalar.uniform_int.try_new_inclusive_u8 lo hi) = UniformInt.tryNew IntTy.u8 lo.toNat hi.toNat true :=
  ⟨ctorBV_model IntTy.u8 rfl (by decide) false lo hi, ctorBV_model IntTy.u8 rfl (by decide) true lo hi⟩

theorem ctor_i16_translated (lo hi : BitVec 16) :
    liftC (Scalar.uniform_int.try_new_i16 lo hi) = UniformInt.tryNew IntTy.i16 lo.toNat hi.toNat false ∧
    liftC (Scalar.uniform_int.try_new_inclusive_i16 lo hi) = UniformInt.tryNew IntTy.i16 lo.toNat hi.toNat true :=
  ⟨ctorBV_model IntTy.i16 rfl (by decide) false lo hi, ctorBV_model IntTy.i16 rfl (by decide) true lo hi⟩

theorem ctor_u16_translated (lo hi : BitVec 16) :
    liftC (Scalar.uniform_int.try_new_u16 lo hi) = UniformInt.tryNew IntTy.u16 lo.toNat hi.toNat false ∧
    liftC (Scalar.uniform_int.try_new_inclusive_u16 lo hi) = UniformInt.tryNew IntTy.u16 lo.toNat hi.toNat true :=
  ⟨ctorBV_model IntTy.u16 rfl (by decide) false lo hi, ctorBV_model IntTy.u16 rfl (by decide) true lo hi⟩

theorem ctor_i32_translated (lo hi : BitVec 32) :
    liftC (Scalar.uniform_int.try_new_i32 lo hi) = UniformInt.tryNew IntTy.i32 lo.toNat hi.toNat false ∧
    liftC (Scalar.uniform_int.try_new_inclusive_i32 lo hi) = UniformInt.tryNew IntTy.i32 lo.toNat hi.toNat true :=
  ⟨ctorBV_model IntTy.i32 rfl (by decide) false lo hi, ctorBV_model IntTy.i32 rfl (by decide) true lo hi⟩

theorem ctor_u32_translated (lo hi : BitVec 32) :
    liftC (Scalar.uniform_int.try_new_u32 lo hi) = UniformInt.tryNew IntTy.u32 lo.toNat hi.toNat false ∧
    liftC (Scalar.uniform_int.try_new_inclusive_u32 lo hi) = UniformInt.tryNew IntTy.u32 lo.toNat hi.toNat true :=
  ⟨ctorBV_model IntTy.u32 rfl (by decide) false lo hi, ctorBV_model IntTy.u32 rfl (by decide) true lo hi⟩

theorem ctor_i64_translated (lo hi : BitVec 64) :
    liftC (Scalar.uniform_int.try_new_i64 lo hi) = UniformInt.tryNew IntTy.i64 lo.toNat hi.toNat false ∧
    liftC (Scalar.uniform_int.try_new_inclusive_i64 lo hi) = UniformInt.tryNew IntTy.i64 lo.toNat hi.toNat true :=
  ⟨ctorBV_model IntTy.i64 rfl (by decide) false lo hi, ctorBV_model IntTy.i64 rfl (by decide) true lo hi⟩

theorem ctor_u64_translated (lo hi : BitVec 64) :
    liftC (Scalar.uniform_int.try_new_u64 lo hi) = UniformInt.tryNew IntTy.u64 lo.toNat hi.toNat false ∧
    liftC (Scalar.uniform_int.try_new_inclusive_u64 lo hi) = UniformInt.tryNew IntTy.u64 lo.toNat hi.toNat true :=
  ⟨ctorBV_model IntTy.u64 rfl (by decide) false lo hi, ctorBV_model IntTy.u64 rfl (by decide) true lo hi⟩

theorem ctor_isize_translated (lo hi : BitVec 64) :
    liftC (Scalar.uniform_int.try_new_isize lo hi) = UniformInt.tryNew IntTy.isize lo.toNat hi.toNat false ∧
    liftC (Scalar.uniform_int.try_new_inclusive_isize lo hi) = UniformInt.tryNew IntTy.isize lo.toNat hi.toNat true :=
  ⟨ctorBV_model IntTy.isize rfl (by decide) false lo hi, ctorBV_model IntTy.isize rfl (by decide) true lo hi⟩

theorem ctor_usize_translated (lo hi : BitVec 64) :
    liftC (Scalar.uniform_int.try_new_usize lo hi) = UniformInt.tryNew IntTy.usize lo.toNat hi.toNat false ∧
    liftC (Scalar.uniform_int.try_new_inclusive_usize lo hi) = UniformInt.tryNew IntTy.usize lo.toNat hi.toNat true :=
  ⟨ctorBV_model IntTy.usize rfl (by decide) false lo hi, ctorBV_model IntTy.usize rfl (by decide) true lo hi⟩

end Urandom.C04
