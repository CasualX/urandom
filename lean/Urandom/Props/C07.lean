import Urandom.Lemmas.AlgorithmR
import Urandom.Lemmas.Index
/-
C07 - multiple() draws a uniformly random k-subset of the collection.

Model: `Urandom.Seq.multiple` (tied to `Random::multiple` by the `multi` correspondence stream; equal to the translated source:
`Props/C07T.lean`).
The model is the *repaired* code (`index(i + 1)`, fix D1); the pinned tree drew
`index(i + 1 + amount)` and is biased - see `pinned_code_is_biased` below, which is the replay of D1.
Stated: the shape of the result, that a run is Algorithm R on the `index` values it drew, distinctness, and that every k-subset is left
by equally many draw tuples (`multiple_uniform`).  Not stated: that the draws are independent and uniform (each is an `index`: C04,
C06), and the probabilities `1 / C(n, k)` and `k / n` that follow.
-/
namespace Urandom.C07
open Urandom.Seq

theorem multipleLoop_shape (xs : List Nat) (i : Nat) (buf : Array Nat) (len : Nat) (ws ws' : Words)
    (buf' : Array Nat) (len' : Nat) (hle : len ≤ buf.size)
    (h : multipleLoop xs i buf len ws = some ((buf', len'), ws')) :
    buf'.size = buf.size ∧ len' = min buf.size (len + xs.length) ∧ ∀ p, len' ≤ p → buf'[p]? = buf[p]? := by
  fun_induction multipleLoop xs i buf len ws with
  | case1 i buf len ws =>
    obtain ⟨⟨rfl, rfl⟩, _⟩ : (buf = buf' ∧ len = len') ∧ ws = ws' := by simpa using h
    exact ⟨rfl, by simp; omega, fun _ _ => rfl⟩
  | case2 x xs i buf len ws hlt ih =>
    obtain ⟨h1, h2, h3⟩ := ih (by simp; omega) h
    simp only [Array.size_setIfInBounds] at h1 h2
    refine ⟨h1, by simp only [List.length_cons]; omega, fun p hp => ?_⟩
    rw [h3 p hp, Array.getElem?_setIfInBounds, if_neg (by omega)]
  | case3 => simp at h
  | case4 x xs i buf len ws hlt k ws1 hk ih =>
    obtain ⟨h1, h2, h3⟩ := ih (by simpa using hle) h
    simp only [Array.size_setIfInBounds] at h1 h2
    refine ⟨h1, by simp only [List.length_cons]; omega, fun p hp => ?_⟩
    rw [h3 p hp, Array.getElem?_setIfInBounds]
    split
    · rw [if_neg (by omega), Array.getElem?_eq_none (by omega)]
    · rfl

/-- C07: `multiple` returns `min(k, n)`, keeps the buffer length and leaves the slots beyond the returned count untouched - for
all `n`, all `k` (`k < n`, `k = n`, `k > n`, `k = 0`), all words -/
theorem multiple_shape (items : List Nat) (buf buf' : Array Nat) (cnt : Nat) (ws ws' : Words)
    (h : multiple items buf ws = some ((buf', cnt), ws')) :
    buf'.size = buf.size ∧ cnt = min buf.size items.length ∧ ∀ p, cnt ≤ p → buf'[p]? = buf[p]? := by
  have := multipleLoop_shape items 0 buf 0 ws ws' buf' cnt (Nat.zero_le _) h
  simpa using this

/-! ### The draws: link to the counting model -/

open Urandom.Mult

/-- slot ↦ content, for a buffer of exactly `k` slots -/
def toFun {k : ℕ} (buf : Array Nat) (h : buf.size = k) : Fin k → ℕ := fun j => buf[j.val]'(by rw [h]; exact j.2)

/-- the replace phase in explicit-draws form: item `k + t` arrives with draw `j` -/
def applyDraws {k : ℕ} : ℕ → List ℕ → (Fin k → ℕ) → (Fin k → ℕ)
  | _, [], B => B
  | t, j :: js, B => applyDraws (t+1) js (Mult.step (k + t) j B)

/-- valid draws: the draw for item `k + t` is an `index(k + t + 1)` result -/
def ValidDraws (k : ℕ) : ℕ → List ℕ → Prop
  | _, [] => True
  | t, j :: js => j < k + t + 1 ∧ ValidDraws k (t+1) js

theorem toFun_set {k : ℕ} (buf : Array Nat) (h : buf.size = k) (j x : ℕ) :
    toFun (buf.setIfInBounds j x) (by simpa using h) = Mult.step x j (toFun buf h) := by
  funext p
  have hp : p.val < buf.size := h ▸ p.2
  unfold Mult.step
  split
  · simp only [toFun, Array.getElem_setIfInBounds hp, Function.update_apply, Fin.ext_iff, eq_comm (a := j)]
  · simp only [toFun, Array.getElem_setIfInBounds hp, if_neg (show j ≠ p.val by omega)]

/-- the buffer as the fill phase will leave it: slots at or beyond position `i` hold their own index, the others what `buf` holds -/
def filled {k : ℕ} (i : ℕ) (buf : Array Nat) (h : buf.size = k) : Fin k → ℕ := fun p => if i ≤ p.val then p.val else toFun buf h p

theorem filled_of_le {k : ℕ} {i : ℕ} (hi : k ≤ i) (buf : Array Nat) (h : buf.size = k) : filled i buf h = toFun buf h := by
  funext p; exact if_neg (by have := p.2; omega)

theorem filled_set {k : ℕ} (i : ℕ) (buf : Array Nat) (hk : buf.size = k) :
    filled (i + 1) (buf.setIfInBounds i i) (by simpa using hk) = filled i buf hk := by
  funext p
  have hp : p.val < buf.size := hk ▸ p.2
  simp only [filled, toFun, Array.getElem_setIfInBounds hp]
  split_ifs <;> omega

/-- from position `i` on, with `f` slots still to fill or `t` items already beyond the first `k`: items below `k` go to their own slot
without a draw, every later item `k + t` draws `index(k + t + 1)` and overwrites that slot if it exists -/
theorem run_from {k : ℕ} : ∀ (m i f t : ℕ) (buf : Array Nat) (hk : buf.size = k) (ws ws' : Words) (buf' : Array Nat) (c : ℕ),
    i + f = k + t → (f = 0 ∨ t = 0) → f ≤ m → i + m < IntTy.usize.M →
    multipleLoop (List.range' i m) i buf (min i k) ws = some ((buf', c), ws') →
    ∃ (hk' : buf'.size = k) (js : List ℕ), js.length + f = m ∧ ValidDraws k t js ∧
      toFun buf' hk' = applyDraws t js (filled i buf hk) := by
  intro m
  induction m with
  | zero =>
    intro i f t buf hk ws ws' buf' c hif _ hf _ h
    obtain ⟨⟨rfl, -⟩, -⟩ : (buf = buf' ∧ _) ∧ _ := by simpa [multipleLoop] using h
    exact ⟨hk, [], by simpa using hf, trivial, (filled_of_le (by omega) buf hk).symm⟩
  | succ m ih =>
    intro i f t buf hk ws ws' buf' c hif hft hf hbound h
    by_cases hik : i < k
    · obtain ⟨f, rfl⟩ : ∃ f', f = f' + 1 := ⟨f - 1, by omega⟩
      rw [Nat.min_eq_left hik.le] at h
      simp only [List.range'_succ, multipleLoop, hk, hik, ↓reduceIte] at h
      obtain ⟨hk', js, hl, hv, e⟩ := ih (i+1) f t (buf.setIfInBounds i i) (by simpa using hk) ws ws' buf' c (by omega) (by omega)
        (by omega) (by omega) (by rw [Nat.min_eq_left (show i + 1 ≤ k from hik)]; exact h)
      exact ⟨hk', js, by omega, hv, by rw [e, filled_set]⟩
    · have hki : k ≤ i := by omega
      rw [Nat.min_eq_right hki] at h
      simp only [List.range'_succ, multipleLoop, hk, Nat.lt_irrefl, ↓reduceIte] at h
      split at h
      · simp at h
      · rename_i j ws1 hj
        obtain ⟨hk', js, hl, hv, e⟩ := ih (i+1) 0 (t+1) (buf.setIfInBounds j i) (by simpa using hk) ws1 ws' buf' c (by omega)
          (Or.inl rfl) (Nat.zero_le _) (by omega) (by rw [Nat.min_eq_right (show k ≤ i + 1 by omega)]; exact h)
        refine ⟨hk', j :: js, by simp only [List.length_cons]; omega,
          ⟨by have := index_lt (i + 1) (by omega) (by omega) ws ws1 j hj; omega, hv⟩, ?_⟩
        rw [e, filled_of_le (by omega), filled_of_le hki, toFun_set buf hk j i, applyDraws, show k + t = i by omega]

/-- the run of `multiple` is Algorithm R: on a collection of `n ≥ k` items (identified with their positions `0 … n-1`) the final
buffer is obtained from the identity buffer `B₀` by the `n - k` replacement steps with the valid draws `jₜ ≤ k + t` that `index`
returned -/
theorem multiple_is_algorithm_R {k : ℕ} (n : ℕ) (buf : Array Nat) (hk : buf.size = k) (hkn : k ≤ n)
    (hn : n < IntTy.usize.M) (ws ws' : Words) (buf' : Array Nat) (c : ℕ)
    (h : multiple (List.range n) buf ws = some ((buf', c), ws')) :
    ∃ (hk' : buf'.size = k) (js : List ℕ), js.length = n - k ∧ ValidDraws k 0 js ∧
      toFun buf' hk' = applyDraws 0 js (Mult.B₀ : Fin k → ℕ) := by
  unfold multiple at h
  rw [List.range_eq_range'] at h
  obtain ⟨hk', js, hl, hv, e⟩ := run_from n 0 k 0 buf hk ws ws' buf' c (by omega) (Or.inr rfl) hkn (by omega) (by simpa using h)
  refine ⟨hk', js, by omega, hv, e.trans ?_⟩
  congr 1  -- `filled 0 buf hk` unfolds to `B₀`

theorem applyDraws_good {k : ℕ} : ∀ (js : List ℕ) (t : ℕ) (B : Fin k → ℕ), Good t B →
    Good (t + js.length) (applyDraws t js B) := by
  intro js
  induction js with
  | nil => intro t B h; simpa [applyDraws] using h
  | cons j js ih =>
    intro t B h
    have := ih (t+1) _ (good_step h j)
    simpa [applyDraws, Nat.add_assoc, Nat.add_comm 1] using this

/-- C07: the filled slots hold items from pairwise distinct positions of the collection -/
theorem multiple_distinct {k : ℕ} (n : ℕ) (buf : Array Nat) (hk : buf.size = k) (hkn : k ≤ n)
    (hn : n < IntTy.usize.M) (ws ws' : Words) (buf' : Array Nat) (c : ℕ)
    (h : multiple (List.range n) buf ws = some ((buf', c), ws')) :
    ∃ hk' : buf'.size = k, Function.Injective (toFun buf' hk') ∧ ∀ j, toFun buf' hk' j < n := by
  obtain ⟨hk', js, hl, _, e⟩ := multiple_is_algorithm_R n buf hk hkn hn ws ws' buf' c h
  have := applyDraws_good js 0 (Mult.B₀ : Fin k → ℕ) good_zero
  rw [← e] at this
  refine ⟨hk', this.1, fun j => ?_⟩
  have := this.2 j
  omega

/-- C07: every k-subset is left in the buffer by equally many draw tuples, `t!` of them.  `N t w` (`Lemmas/AlgorithmR.lean`) is
defined as the iterated sum of `w(final buffer)` over the draws `jᵢ ≤ k + i` of the `t = n - k` replacement steps; that this is
the sum over `ValidDraws` of `w (applyDraws …)` is read off the two definitions, not proved, and neither `1 / C(n, k)` nor the
inclusion probability `k/n` (which follow by dividing by the `(k+1)(k+2)…(k+t)` tuples) is stated. -/
theorem multiple_uniform {k : ℕ} (t : ℕ) (S : Finset ℕ) (hS : S ⊆ Finset.range (k + t)) (hc : S.card = k) :
    Mult.N t (Mult.ind (k := k) S) = t.factorial :=
  Mult.N_ind_eq_factorial t S hS hc

/-- D1 (replay), by evaluation of `Mult.step` for `k = 1`, `n = 2` - the pinned code itself is not modelled: with the draw range
`{0,1,2}` of `index(i + 1 + k)` one draw of three replaces item 0 (it stays with probability 2/3); with the repaired range `{0,1}`
one of two. -/
theorem pinned_code_is_biased :
    -- pinned tree: 3 equally likely draws, 1 replaces
    ((List.range 3).filter (fun j => Mult.step (k := 1) 1 j Mult.B₀ ⟨0, by decide⟩ = 1)).length = 1 ∧
    ((List.range 3).filter (fun j => Mult.step (k := 1) 1 j Mult.B₀ ⟨0, by decide⟩ = 0)).length = 2 ∧
    -- repaired: 2 equally likely draws, 1 replaces
    ((List.range 2).filter (fun j => Mult.step (k := 1) 1 j Mult.B₀ ⟨0, by decide⟩ = 1)).length = 1 ∧
    ((List.range 2).filter (fun j => Mult.step (k := 1) 1 j Mult.B₀ ⟨0, by decide⟩ = 0)).length = 1 := by
  decide

example : ({0, 2} : Finset ℕ) ⊆ Finset.range (2 + 1) ∧ ({0, 2} : Finset ℕ).card = 2 := by decide

end Urandom.C07
