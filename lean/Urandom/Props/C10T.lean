import Urandom.Lemmas.EffectFill
import Urandom.Lemmas.BitVecNat
/-!
# C10 / C01 for `util::rng_fill_bytes` as translated from the source

`tools/extract_effect.py` translates the current text of `rng_fill_bytes` (src/rng/util.rs: raw pointer, `while len >= 8`, the 4 / 2 / 1 byte
tail, the generator draws) into `Urandom.Generated.Effect.rng_fill_bytes`: a function of the destination length (a 64-bit `usize`) and an
abstract generator that returns the log of stores, the generator afterwards and whether a loop ran out of fuel (2^64 rounds).  For every
length below 2^64 - not only those a test can allocate - this is the model `rngFillWrites` (Model/Word.lean) that C10 and C01 are proved about
(`rng_fill_bytes_translated`).
-/
namespace Urandom.C10
open Urandom.Generated

variable {σ : Type}

/-- `L` is `buf.len()`: no loop diverges, every store stores a whole integer (`n` bytes of an `8 n`-bit value), the stores - offsets and
bytes, in order - and the generator afterwards are the model's -/
theorem rng_fill_bytes_translated (g : WordGen σ) (s : σ) (L : BitVec 64) :
    (Effect.rng_fill_bytes g.u64 s L).2.2 = false ∧
    (∀ p ∈ (Effect.rng_fill_bytes g.u64 s L).1, p.n * 8 = p.width) ∧
    (Effect.rng_fill_bytes g.u64 s L).1.map toWrite = (rngFillWrites g s 0 L.toNat).1 ∧
    (Effect.rng_fill_bytes g.u64 s L).2.1 = (rngFillWrites g s 0 L.toNat).2 := by
  have hoff : (0#64 + BitVec.ofNat 64 (8 * (L.toNat / 8))).toNat = 0 + 8 * (L.toNat / 8) := by
    rw [BitVec.zero_add, toNat_ofNat_lt (by omega), Nat.zero_add]
  have hr8 : L.toNat % 8 < 8 := Nat.mod_lt _ (by omega)
  -- both sides in closed form: the records of the loop, then those of the tail
  rw [rng_fill_bytes_closed, model_closed g s 0 L.toNat 0#64 rfl (by omega)]
  refine ⟨rfl, ?_, ?_, rfl⟩
  · intro p hp
    rcases List.mem_append.1 hp with h | h
    · exact loopW_width g _ _ _ p h
    · split at h
      · exact tailW_width _ _ _ hr8 p h
      · simp at h
  · rw [List.map_append]
    split
    · rw [tailW_toWrite _ _ _ hr8 (by omega), hoff]
    · rfl

end Urandom.C10
