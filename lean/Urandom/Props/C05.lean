import Urandom.Lemmas.FisherYates
import Urandom.Lemmas.Index
import Mathlib.Order.Interval.Finset.Nat
/-
C05 - shuffle / partial_shuffle are exact uniform permutations of the slice.

Model: `Urandom.Seq.shuffle`, `Urandom.Seq.partialShuffle` (tied to `Random::shuffle`,
`Random::partial_shuffle` by the `shuf` / `pshuf` correspondence streams; equal to the translated source: `Props/C05T.lean`).
The word-driven loops are first related to "explicit draws" loops (`fy`, `pfy`) whose arguments are the successive `index` /
`range` results; the counting statements are about those: for `shuffle` a bijection between draw tuples and orders
(`shuffle_bijective`), for `partial_shuffle` injectivity (`pfy_injective`) and the count of tuples (`card_pdrawSet`), not assembled
into a bijection.  That each index value comes from equally many words is C04 (`sample_uniform`); no theorem composes the two.
-/
namespace Urandom.C05
open Urandom.Seq Urandom.FY

theorem shuffleLoop_eq_fy (len : Nat) (a : Array Nat) (ws ws' : Words) (a' : Array Nat)
    (h : shuffleLoop len a ws = some (a', ws')) :
    ∃ ks, a' = fy a len ks ∧ (len < IntTy.usize.M → Draws len ks) := by
  induction len, a, ws using shuffleLoop.induct with
  | case1 len a ws hk => simp [shuffleLoop, hk] at h
  | case2 len a ws k ws1 hk hs => simp [shuffleLoop, hk, hs] at h
  | case3 len a ws k ws1 hk a1 ha1 ih =>
    obtain ⟨rfl, _, _⟩ := swap?_some ha1
    simp only [shuffleLoop, hk, ha1] at h
    obtain ⟨ks, e, hd⟩ := ih h
    exact ⟨k :: ks, e, fun hl => ⟨index_lt (len+2) (by omega) hl ws ws1 k hk, hd (by omega)⟩⟩
  | case4 len a ws hne =>
    rw [shuffleLoop.eq_2 _ _ _ hne] at h
    obtain ⟨rfl, -⟩ := Prod.mk.inj (Option.some.inj h)
    refine ⟨[], (fy.eq_2 _ _ _ (by simp)).symm, fun _ => ?_⟩
    match len, hne with
    | 0, _ => rfl
    | 1, _ => rfl
    | _+2, hne => exact (hne _ rfl).elim

/-- C05: nothing is lost, duplicated or invented - the shuffled slice is a permutation of the original, for every slice and
every word sequence -/
theorem shuffle_perm (a a' : Array Nat) (ws ws' : Words) (h : shuffle a ws = some (a', ws')) :
    a'.Perm a ∧ a'.size = a.size := by
  obtain ⟨ks, rfl, _⟩ := shuffleLoop_eq_fy a.size a ws ws' a' h
  exact ⟨fy_perm a _ ks, fy_size a _ ks⟩

/-- C05, exact uniformity of `shuffle`: on a duplicate-free slice every one of the `n!` orders arises from exactly one tuple of
index draws `(kₙ, …, k₂)`, `kᵢ < i` -/
theorem shuffle_bijective (a : Array Nat) (hnd : a.toList.Nodup) (σ : List Nat) (hσ : σ.Perm a.toList) :
    ∃! ks, Draws a.size ks ∧ (fy a a.size ks).toList = σ :=
  fy_bijective a hnd σ hσ

theorem shuffle_draw_count (n : Nat) : (drawSet n).card = n.factorial ∧ ∀ ks, ks ∈ drawSet n ↔ Draws n ks :=
  ⟨card_drawSet n, mem_drawSet n⟩

/-- the index draws of a real run form such a tuple -/
theorem shuffle_uses_valid_draws (a a' : Array Nat) (ws ws' : Words) (hs : a.size < IntTy.usize.M)
    (h : shuffle a ws = some (a', ws')) : ∃ ks, Draws a.size ks ∧ a' = fy a a.size ks := by
  obtain ⟨ks, e, hd⟩ := shuffleLoop_eq_fy a.size a ws ws' a' h
  exact ⟨ks, hd hs, e⟩

/-- explicit-draws form of the loop of `partial_shuffle`: at step `i` swap positions `i` and `k` -/
def pfy (a : Array Nat) : Nat → List Nat → Array Nat
  | _, [] => a
  | i, k :: ks => pfy (a.swapIfInBounds i k) (i+1) ks

/-- valid draws: the `j`-th draw lies in `[i+j, len)` -/
def PDraws (len : Nat) : Nat → List Nat → Prop
  | _, [] => True
  | i, k :: ks => i ≤ k ∧ k < len ∧ PDraws len (i+1) ks

theorem pfy_size (a : Array Nat) : ∀ ks i, (pfy a i ks).size = a.size := by
  intro ks
  induction ks generalizing a with
  | nil => intro i; rfl
  | cons k ks ih => intro i; simp [pfy, ih]

theorem pfy_perm (a : Array Nat) : ∀ ks i, (pfy a i ks).Perm a := by
  intro ks
  induction ks generalizing a with
  | nil => intro i; exact .rfl
  | cons k ks ih =>
    intro i
    exact (ih _ _).trans (swapIfInBounds_perm a _ _)

theorem pfy_frozen (len : Nat) : ∀ (ks : List Nat) (a : Array Nat) (i p : Nat) (hp : p < a.size), p < i →
    PDraws len i ks → (pfy a i ks)[p]'(by rw [pfy_size]; exact hp) = a[p] := by
  intro ks
  induction ks with
  | nil => intro a i p hp _ _; rfl
  | cons k ks ih =>
    intro a i p hp hpi hd
    obtain ⟨hik, _, hd'⟩ := hd
    simp only [pfy]
    rw [ih _ (i+1) p (by simpa using hp) (by omega) hd', Array.getElem_swapIfInBounds_of_ne_of_ne (by omega) (by omega)]

theorem pshufLoop_eq_pfy (cnt i : Nat) (a : Array Nat) (ws ws' : Words) (a' : Array Nat)
    (h : pshufLoop cnt i a ws = some (a', ws')) :
    ∃ ks, ks.length = cnt ∧ a' = pfy a i ks ∧ (a.size < IntTy.usize.M → PDraws a.size i ks) := by
  induction cnt, i, a, ws using pshufLoop.induct with
  | case1 i a ws =>
    obtain ⟨rfl, -⟩ := Prod.mk.inj (Option.some.inj h)
    exact ⟨[], rfl, rfl, fun _ => trivial⟩
  | case2 cnt i a ws hr => simp [pshufLoop, hr] at h
  | case3 cnt i a ws k ws1 hr hs => simp [pshufLoop, hr, hs] at h
  | case4 cnt i a ws k ws1 hr a1 ha1 ih =>
    obtain ⟨rfl, _, _⟩ := swap?_some ha1
    simp only [pshufLoop, hr, ha1] at h
    obtain ⟨ks, hl, e, hd⟩ := ih h
    refine ⟨k :: ks, by simp [hl], e, fun hs => ?_⟩
    have := rangeUsize_mem i a.size hs ws ws1 k hr
    exact ⟨this.1, this.2, by simpa using hd (by simpa using hs)⟩

/-- C05: `partial_shuffle` only rearranges, for every `n` (`n ≥ len` included), every slice and every word sequence -/
theorem partialShuffle_perm (a a' : Array Nat) (n : Nat) (ws ws' : Words)
    (h : partialShuffle a n ws = some (a', ws')) : a'.Perm a ∧ a'.size = a.size := by
  unfold partialShuffle at h
  split at h
  · obtain ⟨ks, _, rfl, _⟩ := pshufLoop_eq_pfy _ 0 a ws ws' a' h
    exact ⟨pfy_perm a ks 0, pfy_size a ks 0⟩
  · injection h with h; injection h with h1 h2; subst h1; exact ⟨.rfl, rfl⟩

/-- slices of length ≤ 1 and `n = 0` are left alone, without a draw -/
theorem partialShuffle_noop (a : Array Nat) (n : Nat) (ws : Words) (h : a.size ≤ 1 ∨ n = 0) :
    partialShuffle a n ws = some (a, ws) := by
  unfold partialShuffle
  rcases h with h | h
  · simp [show ¬ a.size > 1 by omega]
  · subst h; split <;> simp [pshufLoop]

/-- the first draw can be read off the result: it put `a[k]` into slot `i`, which no later step touches -/
theorem pfy_first_draw (a : Array Nat) (i k : Nat) (ks : List Nat) (hi : i < a.size) (hd : PDraws a.size i (k :: ks)) :
    (pfy a i (k :: ks))[i]'(by rw [pfy_size]; exact hi) = a[k]'hd.2.1 := by
  simp only [pfy]
  rw [pfy_frozen a.size ks _ (i+1) i (by simpa using hi) (Nat.lt_succ_self i) (by simpa using hd.2.2),
    Array.getElem_swapIfInBounds_left hd.2.1]

/-- C05, `partial_shuffle`: on a duplicate-free slice the first `|ks|` positions of the result determine the draws - distinct
draw tuples give distinct ordered choices, and there are as many tuples as ordered choices (`card_pdrawSet`) -/
theorem pfy_injective : ∀ (ks ks' : List Nat) (a : Array Nat) (i : Nat), Inj a → ks.length = ks'.length →
    i + ks.length ≤ a.size → PDraws a.size i ks → PDraws a.size i ks' →
    (∀ p (hp : p < a.size), i ≤ p → p < i + ks.length →
      (pfy a i ks)[p]'(by rw [pfy_size]; exact hp) = (pfy a i ks')[p]'(by rw [pfy_size]; exact hp)) →
    ks = ks' := by
  intro ks
  induction ks with
  | nil => intro ks' a i _ hl _ _ _ _; exact (List.length_eq_zero_iff.1 hl.symm).symm
  | cons k ks ih =>
    intro ks' a i hinj hl hsz hd hd' heq
    cases ks' with
    | nil => simp at hl
    | cons k' ks' =>
      simp only [List.length_cons] at hl hsz
      have hi : i < a.size := by omega
      have e := heq i hi (Nat.le_refl _) (by simp)
      rw [pfy_first_draw a i k ks hi hd, pfy_first_draw a i k' ks' hi hd'] at e
      obtain rfl : k = k' := hinj _ _ _ _ e
      congr 1
      have hs : (a.swapIfInBounds i k).size = a.size := Array.size_swapIfInBounds
      exact ih ks' (a.swapIfInBounds i k) (i+1) (inj_swap hinj _ _) (by omega) (by omega) (hs ▸ hd.2.2) (hs ▸ hd'.2.2)
        fun p hp h1 h2 => by simpa only [pfy] using heq p (hs ▸ hp) (by omega) (by simp only [List.length_cons]; omega)

def pdrawSet (len : Nat) : Nat → Nat → Finset (List Nat)
  | 0, _ => {[]}
  | n+1, i => (Finset.Ico i len).biUnion (fun k => (pdrawSet len n (i+1)).image (fun ks => k :: ks))

theorem mem_pdrawSet (len : Nat) : ∀ n i ks, ks ∈ pdrawSet len n i ↔ (ks.length = n ∧ PDraws len i ks) := by
  intro n
  induction n with
  | zero => intro i ks; cases ks <;> simp [pdrawSet, PDraws]
  | succ n ih =>
    intro i ks
    rw [pdrawSet, mem_biUnion_cons]
    cases ks with
    | nil => exact ⟨fun ⟨_, _, e, _⟩ => (by cases e), fun h => by simp at h⟩
    | cons k ks =>
      exact ⟨fun ⟨_, _, e, hk, hks⟩ => by
          cases e
          have := (ih _ _).1 hks
          exact ⟨by simp [this.1], (Finset.mem_Ico.1 hk).1, (Finset.mem_Ico.1 hk).2, this.2⟩,
        fun ⟨hl, h1, h2, hd⟩ => ⟨k, ks, rfl, Finset.mem_Ico.2 ⟨h1, h2⟩, (ih _ _).2 ⟨by simpa using hl, hd⟩⟩⟩

/-- there are `(len-i)(len-i-1)…(len-i-n+1)` draw tuples: as many as ordered choices of `n` out of
`len - i` elements (`Nat.descFactorial`) -/
theorem card_pdrawSet (len : Nat) : ∀ n i, i + n ≤ len → (pdrawSet len n i).card = (len - i).descFactorial n := by
  intro n
  induction n with
  | zero => intro i _; simp [pdrawSet]
  | succ n ih =>
    intro i hle
    rw [pdrawSet, card_biUnion_cons, ih (i+1) (by omega), Nat.card_Ico,
      show len - i = (len - (i+1)) + 1 by omega, Nat.succ_descFactorial_succ]

example : Draws 3 [2, 0] ∧ fy #[10, 11, 12] 3 [2, 0] = #[11, 10, 12] := by simp [Draws, fy, Array.swapIfInBounds]
example : PDraws 3 0 [2, 1] ∧ pfy #[10, 11, 12] 0 [2, 1] = #[12, 11, 10] := by simp [PDraws, pfy, Array.swapIfInBounds]

end Urandom.C05
