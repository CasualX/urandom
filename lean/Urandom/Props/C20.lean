import Urandom.Generated.Traits
/-
C20 - Only real CSPRNGs carry the secure marker; ChaCha cannot be seeded from a PRNG.

The guarantee is enforced by rustc's trait checking, so the executable model is the finite impl table, regenerated from the source
text on every run by `tools/extract.py` (`Urandom.Generated.Traits`).  The theorems are finite decisions over that table; the tie to the
compiler is the probe stream of the check (small programs compiled against the freshly built crate: accept/reject must equal the
table's prediction).  A thin use of the technique: the trusted part is rustc.
-/
namespace Urandom.C20
open Urandom.Generated

/-- the token `w` occurs in `s` as a whole identifier -/
def mentions (s w : String) : Bool :=
  let isId (c : Char) : Bool := c.isAlphanum || c == '_'
  let toks := (s.toList.splitBy (fun a b => isId a == isId b)).map String.ofList
  toks.contains w

def targets : List String := secureImpls.map (fun i => i.2.2.1)

/-- C20: exactly the ChaCha generators and the system-entropy generator carry the marker; none of the impls is a blanket impl over a type
parameter and none has a where-clause that could widen it -/
theorem marker_exact :
    targets.length = 4 ∧ (∀ t ∈ ["ChaCha<8>", "ChaCha<12>", "ChaCha<20>", "System<N>"], t ∈ targets) ∧
    (∀ i ∈ secureImpls, i.2.2.2.2 = false ∧ i.2.2.2.1 = "") ∧
    (∀ i ∈ secureImpls, i.2.2.1 = "System<N>" → i.2.1 = "<const N: usize>") ∧
    (∀ i ∈ secureImpls, i.2.2.1 ≠ "System<N>" → i.2.1 = "") := by
  decide +kernel

/-- the statistical generators, `Mock` and `Read` are not among the targets -/
theorem prngs_unmarked :
    ∀ t ∈ targets, ¬ (mentions t "Xoshiro256" ∨ mentions t "SplitMix64" ∨ mentions t "Wyrand" ∨ mentions t "Mock" ∨ mentions t "Read") := by
  decide +kernel

/-- seeding a ChaCha generator from another generator requires the marker, as far as the text of `from_rng`'s signature shows it.  That the
bound sits on the `R` of its `Random<R>` argument is not read off the text: it is what the compile probes (head of this file) establish. -/
theorem fromRng_requires_marker :
    (mentions fromRngGenerics "SecureRng" ∨ mentions fromRngWhere "SecureRng") = true ∧
    mentions fromRngArgs "Random" = true ∧ mentions fromRngArgs "R" = true ∧ mentions fromRngGenerics "R" = true := by
  decide +kernel

/-- every associated function of a ChaCha type that takes a generator (inherent or in a trait impl) names the marker in its own generics or
where-clause, and there is exactly one such function, `from_rng` -/
theorem every_chacha_seeder_requires_marker :
    (∀ f ∈ chachaSeeders, (mentions f.2.2.2.1 "SecureRng" || mentions f.2.2.2.2.2 "SecureRng") = true) ∧
    chachaSeeders.map (·.2.2.1) = ["from_rng"] := by
  decide +kernel

/-- `csprng()` promises a marked generator, `new()` and `seeded()` do not claim it -/
theorem lib_return_types :
    (∀ r ∈ libReturns, r.1 = "csprng" → mentions r.2 "SecureRng" = true) ∧
    (∀ r ∈ libReturns, r.1 ≠ "csprng" → mentions r.2 "SecureRng" = false) ∧
    libReturns.map (·.1) = ["new", "seeded", "csprng"] := by
  decide +kernel

/-- the marker is a sub-trait of `Rng` (so a marked type is a generator at all) -/
theorem marker_is_subtrait : mentions markerDecl.2 "Rng" = true := by decide +kernel

end Urandom.C20
