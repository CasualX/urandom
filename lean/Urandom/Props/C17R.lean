import Urandom.Generated.GlueCtor
import Urandom.Generated.GlueRandom
import Urandom.Generated.GlueEntropy
/-!
# Constructors and the entropy layer as translated from the source (C17, C09, C01)

`tools/extract_glue.py` translates the current text of `urandom::new` / `seeded` / `csprng` (src/lib.rs), of `new()` / `from_rng()` of SplitMix64,
Wyrand, Xoshiro256 and ChaCha<N>, and of both back ends of src/rng/entropy.rs.  Proved for every lawful monad: `new()` takes its whole state
from one `util::getrandom` - one entropy request over exactly `size_of` the state - and stores it unchanged; `from_rng` takes the whole state
from the parent (`next_u64` for the 64-bit generators, one `random_bytes` otherwise); `urandom::seeded` is `Xoshiro256::from_seed`,
`urandom::new` is `Xoshiro256::new`, `urandom::csprng` is `ChaCha12::new`; an entropy request that fails panics before anything is handed out.
-/
namespace Urandom.C17R
open Urandom.Glue Urandom.Generated.Glue

theorem lib_entry_points {G : Type} (xnew cnew : G) (fromSeed : BitVec 64 → G) (seed : BitVec 64) :
    lib.new xnew = xnew ∧ lib.seeded fromSeed seed = fromSeed seed ∧ lib.csprng cnew = cnew := ⟨rfl, rfl, rfl⟩

variable {m : Type → Type} [Monad m] [LawfulMonad m] {σ St B G : Type}

theorem new_is_one_getrandom (ge : m St) (mk : St → G) (bnew : St → B) (mkc : B → G) :
    SplitMix64.new ge mk = (mk <$> ge) ∧ Wyrand.new ge mk = (mk <$> ge) ∧ Xoshiro256.new ge mk = (mk <$> ge) ∧
    ChaCha.new ge bnew mkc = ((fun s => mkc (bnew s)) <$> ge) := by
  refine ⟨?_, ?_, ?_, ?_⟩ <;> simp [SplitMix64.new, Wyrand.new, Xoshiro256.new, ChaCha.new]

/-- with the translated `util::getrandom`: one entropy request over exactly the `size` bytes of the state, all of which becomes the state -/
theorem new_is_one_entropy_request (size : BitVec 64) (entropy : Pod → m Unit) (mk : Pod → G) :
    Xoshiro256.new (util.getrandom size entropy) mk = (entropy (uninit size) >>= fun _ => pure (mk (uninit size))) ∧
    SplitMix64.new (util.getrandom size entropy) mk = (entropy (uninit size) >>= fun _ => pure (mk (uninit size))) ∧
    Wyrand.new (util.getrandom size entropy) mk = (entropy (uninit size) >>= fun _ => pure (mk (uninit size))) := by
  refine ⟨?_, ?_, ?_⟩ <;> simp [Xoshiro256.new, SplitMix64.new, Wyrand.new, util.getrandom, from_mut, uninit, Pod.assume_init]

/-- `rb` stands for one `random_bytes` of the parent over the whole state -/
theorem from_rng_takes_whole_state (R : Rng m σ) (mk64 : BitVec 64 → G) (rb : m St) (mk : St → G) (bnew : St → B) (mkc : B → G) :
    SplitMix64.from_rng R mk64 = (mk64 <$> R.next_u64) ∧ Wyrand.from_rng R mk64 = (mk64 <$> R.next_u64) ∧
    Xoshiro256.from_rng rb mk = (mk <$> rb) ∧ ChaCha.from_rng rb bnew mkc = ((fun s => mkc (bnew s)) <$> rb) := by
  refine ⟨?_, ?_, ?_, ?_⟩ <;> simp [SplitMix64.from_rng, Wyrand.from_rng, Xoshiro256.from_rng, ChaCha.from_rng]

/-- with the translated `Random::random_bytes` / `util::random_bytes`: one `fill_bytes` of the parent over exactly the `size` bytes of the state -/
theorem xoshiro_from_rng_one_fill (R : Rng m σ) (size : BitVec 64) (mk : Pod → G) :
    Xoshiro256.from_rng (Random.random_bytes R (fun R => util.random_bytes R size util.fill_bytes_uninit)) mk =
      (R.fill_bytes size >>= fun _ => pure (mk (uninit size))) := by
  simp [Xoshiro256.from_rng, Random.random_bytes, util.random_bytes, util.fill_bytes_uninit, from_raw_parts_mut, from_mut, uninit, Pod.assume_init]

variable [Panics m]

/-- the extern `getentropy_raw` back end: `false` panics before anything is handed out; an empty destination makes no request -/
theorem raw_backend (raw : Pod → BitVec 64 → m Bool) (buf : Pod) :
    entropy.raw_getentropy_uninit raw buf =
      (if buf.len > 0 then (raw buf buf.size_of_val >>= fun ok => if ok = false then (Panics.panic : m Unit) >>= fun _ => pure buf else pure buf)
       else pure buf) := by
  unfold entropy.raw_getentropy_uninit
  by_cases h : buf.len > 0
  · simp only [h, if_true]
    congr 1; funext ok
    cases ok <;> simp
  · simp only [h, if_false]

theorem getrandom_backend (gr : BitVec 64 → m (Except Unit Unit)) (buf : Pod) :
    entropy.getrandom_getentropy_uninit gr buf = (gr buf.size_of_val >>= fun r => match r with | .ok _ => pure buf | .error _ => Panics.panic) := by
  rfl

theorem getentropy_forwards (gu : Pod → m Pod) (buf : Pod) :
    entropy.raw_getentropy gu buf = gu buf ∧ entropy.getrandom_getentropy gu buf = gu buf := by
  constructor <;> simp [entropy.raw_getentropy, entropy.getrandom_getentropy]

end Urandom.C17R
