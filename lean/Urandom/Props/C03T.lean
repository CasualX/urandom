import Urandom.Generated.EffectBlock
import Urandom.Lemmas.EffectBlockFill
import Urandom.Lemmas.BitVecNat
/-!
# C03 for `BlockRngImpl::next_u32` / `next_u64` / `fill_bytes` and the serde helpers as translated from the source

`tools/extract_effect.py` translates the current text of `impl Rng for BlockRngImpl<T>` (src/rng/block.rs) into functions of the `index` field
(a `u32`), the block size and the destination length: a log of what happens to the block (`generate`, loads, copies) and the `index` field
afterwards.  That log, run on a state of the hand-written model (`Model/Block.lean`), is proved to be the model's `nextN` / `fill` for every
value of the index field (all 2^32 of them, including the "empty" value `!0` and everything between 256 and 2^32) and every length below 2^64
(`next_u32_translated`, `next_u64_translated`, `fill_bytes_translated`; the serde helpers: `serde_index_translated`).
-/
namespace Urandom.C03
open Urandom.Block Urandom.Generated

variable {κ β : Type}

/-- run an event log on a model state (core, buffer): `gen` replaces both, `load` outputs the elements at its offsets -/
def runEvents (C : Core κ β) : κ × (Nat → β) → List BlockEv → List β × (κ × (Nat → β))
  | st, [] => ([], st)
  | (c, _), .gen :: evs => runEvents C ((C.gen c).2, (C.gen c).1) evs
  | (c, buf), .load offs :: evs => (offs.map (fun o => buf o.toNat) ++ (runEvents C (c, buf) evs).1, (runEvents C (c, buf) evs).2)

/-- the common shape of the two translated word methods: `k` is the width of the word in bytes -/
def nextK (k : Nat) (self_index : BitVec 32) (BLOCK : BitVec 64) : List BlockEv × BitVec 32 :=
  let index := self_index.setWidth 64
  let r : BitVec 64 × List BlockEv := if index > BLOCK - BitVec.ofNat 64 k then (0#64, [BlockEv.gen]) else (index, [])
  (r.2 ++ [BlockEv.load ((List.range k).map fun i => r.1 + BitVec.ofNat 64 i)], (r.1 + BitVec.ofNat 64 k).setWidth 32)

theorem next_u32_eq_nextK : Effect.block.next_u32 = nextK 4 := rfl
theorem next_u64_eq_nextK : Effect.block.next_u64 = nextK 8 := rfl

theorem nextK_translated (C : Core κ β) (s : BS κ β) (h : s.index < 2 ^ 32) (k : Nat) (hk : k ≤ 256) :
    runEvents C (s.core, s.buf) (nextK k (BitVec.ofNat 32 s.index) 256#64).1
      = ((nextN C k s).1, ((nextN C k s).2.core, (nextN C k s).2.buf)) ∧
    (nextK k (BitVec.ofNat 32 s.index) 256#64).2.toNat = (nextN C k s).2.index := by
  have hsub : (256#64 - BitVec.ofNat 64 k).toNat = 256 - k := by
    rw [BitVec.toNat_sub_of_le (by rw [BitVec.le_def]; simp; omega)]; simp; omega
  -- offsets `y + i` with `y + k ≤ 256` do not wrap
  have off : ∀ (y : BitVec 64) (i : Nat), y.toNat + i ≤ 256 → (y + BitVec.ofNat 64 i).toNat = y.toNat + i := fun y i hy => by
    simp only [BitVec.toNat_add, BitVec.toNat_ofNat]; omega
  have served : ∀ (y : BitVec 64) (buf : Nat → β), y.toNat + k ≤ 256 →
      ((List.range k).map fun i => y + BitVec.ofNat 64 i).map (fun o => buf o.toNat) = take buf y.toNat k := fun y buf hy => by
    rw [List.map_map]
    exact List.map_congr_left fun i hi => by simp only [Function.comp, off y i (by simp at hi; omega)]
  have idx : ∀ y : BitVec 64, y.toNat + k ≤ 256 → ((y + BitVec.ofNat 64 k).setWidth 32).toNat = y.toNat + k := fun y hy => by
    rw [BitVec.toNat_setWidth, off y k hy]; omega
  unfold nextK nextN
  generalize hx : (BitVec.ofNat 32 s.index).setWidth 64 = x
  have hi : x.toNat = s.index := hx ▸ toNat_setWidth_ofNat h
  by_cases hc : s.index > 256 - k
  · have hb : x > 256#64 - BitVec.ofNat 64 k := by rw [gt_iff_lt, BitVec.lt_def, hi, hsub]; exact hc
    simp only [hb, hc, if_true, List.cons_append, List.nil_append, runEvents, refill, List.append_nil,
      served 0#64 _ (by simp; omega), idx 0#64 (by simp; omega)]
    exact ⟨rfl, rfl⟩
  · have hb : ¬ x > 256#64 - BitVec.ofNat 64 k := by rw [gt_iff_lt, BitVec.lt_def, hi, hsub]; exact hc
    simp only [hb, hc, if_false, List.nil_append, runEvents, List.append_nil, served x _ (by omega), idx x (by omega), hi, and_self]

theorem next_u32_translated (C : Core κ β) (s : BS κ β) (h : s.index < 2 ^ 32) :
    runEvents C (s.core, s.buf) (Effect.block.next_u32 (BitVec.ofNat 32 s.index) 256#64).1
      = ((nextN C 4 s).1, ((nextN C 4 s).2.core, (nextN C 4 s).2.buf)) ∧
    (Effect.block.next_u32 (BitVec.ofNat 32 s.index) 256#64).2.toNat = (nextN C 4 s).2.index := by
  rw [next_u32_eq_nextK]; exact nextK_translated C s h 4 (by omega)

theorem next_u64_translated (C : Core κ β) (s : BS κ β) (h : s.index < 2 ^ 32) :
    runEvents C (s.core, s.buf) (Effect.block.next_u64 (BitVec.ofNat 32 s.index) 256#64).1
      = ((nextN C 8 s).1, ((nextN C 8 s).2.core, (nextN C 8 s).2.buf)) ∧
    (Effect.block.next_u64 (BitVec.ofNat 32 s.index) 256#64).2.toNat = (nextN C 8 s).2.index := by
  rw [next_u64_eq_nextK]; exact nextK_translated C s h 8 (by omega)

/-- `BlockRngImpl::fill_bytes` as translated is the model's `fill`: no slice operation is out of bounds, no loop diverges, the copies go to
consecutive offsets of the destination starting at 0, and the elements written, the core, the block and the index field are the model's -/
theorem fill_bytes_translated (C : Core κ β) (s : BS κ β) (dflt : Nat → β) (L : BitVec 64) (h : s.index < 2 ^ 32) :
    (Effect.block.fill_bytes (BitVec.ofNat 32 s.index) 256#64 L).2.2.1 = false ∧
    (Effect.block.fill_bytes (BitVec.ofNat 32 s.index) 256#64 L).2.2.2 = false ∧
    (runFill C ⟨s.core, s.buf, dflt, [], true⟩ (Effect.block.fill_bytes (BitVec.ofNat 32 s.index) 256#64 L).1).contig = true ∧
    (runFill C ⟨s.core, s.buf, dflt, [], true⟩ (Effect.block.fill_bytes (BitVec.ofNat 32 s.index) 256#64 L).1).out = (fill C L.toNat s).1 ∧
    (runFill C ⟨s.core, s.buf, dflt, [], true⟩ (Effect.block.fill_bytes (BitVec.ofNat 32 s.index) 256#64 L).1).core = (fill C L.toNat s).2.core ∧
    (runFill C ⟨s.core, s.buf, dflt, [], true⟩ (Effect.block.fill_bytes (BitVec.ofNat 32 s.index) 256#64 L).1).buf = (fill C L.toNat s).2.buf ∧
    (Effect.block.fill_bytes (BitVec.ofNat 32 s.index) 256#64 L).2.1.toNat = (fill C L.toNat s).2.index := by
  have hidx : (BitVec.ofNat 32 s.index).toNat = s.index := toNat_ofNat_lt h
  generalize BitVec.ofNat 32 s.index = idx at *
  -- the `while` loop: in closed form its events are `L / 256` rounds, which run on the model state are `direct`
  obtain ⟨tmp', hw⟩ := runFill_whileEvents C (L.toNat / 256) 0#64 ⟨s.core, s.buf, dflt, [], true⟩ rfl (by simp) (by simp; omega)
  have hdl := direct_length C (L.toNat / 256) s.core
  unfold Effect.block.fill_bytes fill
  simp only [while1_closed _ _ _ _ _ _ (show L.toNat / 256 < 2 ^ 64 by omega), List.nil_append]
  -- from here on `L = 256 q + r`
  have hqr : 256 * (L.toNat / 256) + L.toNat % 256 = L.toNat := Nat.div_add_mod _ _
  generalize L.toNat / 256 = q at *
  have hr256 : L.toNat % 256 < 256 := Nat.mod_lt _ (by omega)
  generalize L.toNat % 256 = r at *
  have hremN : (BitVec.ofNat 64 r).toNat = r := toNat_ofNat_lt (by omega)
  by_cases hr0 : r = 0
  · -- nothing remains: the loop of the remainder is not entered
    subst hr0
    have n0 : ¬ (BitVec.ofNat 64 0 > 0#64) := by decide
    simp only [n0, if_false, if_true, hw]
    simp [hidx]
  · -- the loop of the remainder is `fillRem` on the state the `while` loop left; it breaks within two rounds, and the translation
    -- gives it `2^64` rounds of fuel
    have p0 : BitVec.ofNat 64 r > 0#64 := by rw [gt_iff_lt, BitVec.lt_def, hremN]; simp; omega
    have hoffN : (0#64 + BitVec.ofNat 64 (256 * q)).toNat = 256 * q := by
      rw [BitVec.zero_add, toNat_ofNat_lt (by omega)]
    obtain ⟨idx', off', rem', evs, hl, hi', hrun⟩ := loop1_run C { s with core := (direct C q s.core).2 } tmp' (direct C q s.core).1
      (2 ^ 64 - 2) idx (0#64 + BitVec.ofNat 64 (256 * q)) (BitVec.ofNat 64 r) (whileEvents q 0#64) false false hidx (by omega)
      (by rw [hoffN, hdl]) (by rw [hoffN]; omega)
    rw [hremN] at hi' hrun
    simp only [p0, if_true, hr0, if_false, hl, runFill_append, hw, List.nil_append, hrun, hi']
    simp

/-- the serde helpers as translated (`skip_serializing_if = "is_index_oob::<T>"`, `default = "default_index::<T>"` on the field `index`; the
attributes themselves, `is_default` and `BlockRngImpl::new` are checked by the translator) -/
theorem serde_index_translated (s : BS κ (BitVec 8)) (h : s.index < 2 ^ 32) :
    ((ser s).index = none ↔ Effect.block.is_index_oob 256#64 (BitVec.ofNat 32 s.index) = true) ∧
    (∀ j : Ser κ, j.index = none → (de j).index = Effect.block.default_index.toNat) ∧
    (Block.new s.core (0#8)).index = Effect.block.default_index.toNat := by
  have hd : Effect.block.default_index.toNat = 2 ^ 32 - 1 := by decide
  refine ⟨?_, ?_, by rw [hd]; rfl⟩
  · unfold ser Effect.block.is_index_oob
    by_cases hc : s.index ≥ 256 <;> simp [hc] <;> omega
  · intro j hj
    unfold de
    rw [hj, hd]
    rfl

end Urandom.C03
