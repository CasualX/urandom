import Urandom.Lemmas.IEEEOrder
import Urandom.Props.C11
import Mathlib.Order.Interval.Finset.Nat
/-
C14 - chance(p) / Bernoulli(p): certain at the extremes, monotone, probability p.

Model: `Urandom.bernoulli p` = `IEEE.le b64 (Float01 sample) p` (`src/distr/bernoulli.rs`;
`Random::chance(p)` is `Bernoulli::new(p).sample`), tied to the code by the `bern` correspondence
stream (p of every class, and p equal to / one ulp either side of the Float01 value the scripted
words produce); proved equal to translated source in `Props/C14T.lean`.
Stated: certain for `p ≥ 1`, never for `p ≤ 0` and NaN, monotone in `p` - all about `outcome`, the comparison `bernoulli`
makes (`bernoulli_eq`) - and three separate ingredients of the probability clause.  Not stated: the probability itself
(see the comment before `f01`), and anything for `p < 2^-64`.
-/
namespace Urandom.C14
open Urandom.IEEE

def f01val (w₁ w₂ : BitVec 64) : ℚ := rval false (2 ^ 52 + w₂.toNat / 2 ^ 12) (-53 - (clz64 w₁ : ℤ))

theorem f01val_range (w₁ w₂ : BitVec 64) : 0 < f01val w₁ w₂ ∧ f01val w₁ w₂ < 1 := by
  refine ⟨rval_pos _ _ (by positivity), ?_⟩
  -- below `1 = 2^52 · 2^-52`, which sits in a higher binade
  have h := rval_lt_of_exp_lt 52 (2 ^ 52 + w₂.toNat / 2 ^ 12) (2 ^ 52) (-53 - (clz64 w₁ : ℤ)) (-52)
    (by omega) le_rfl (by omega)
  have e : rval false (2 ^ 52) (-52) = 1 := by
    rw [rval_false]; norm_num [zpow_neg]
  rwa [e] at h

def outcome (p : Nat) (w₁ w₂ : BitVec 64) : Bool := Val.le (decode b64 (Float01.bits64 w₁ w₂)) (decode b64 p)

theorem bernoulli_eq (p : Nat) (w₁ w₂ : BitVec 64) (ws : Words) :
    bernoulli p (w₁ :: w₂ :: ws) = some (outcome p w₁ w₂, ws) := rfl

theorem f01_le_one (w₁ w₂ : BitVec 64) : Val.le (decode b64 (Float01.bits64 w₁ w₂)) (.fin false 1 0) = true := by
  rw [C11.float01_decode, le_fin_iff]
  have : rval false 1 0 = 1 := by rw [rval_false]; simp
  rw [this]; exact (f01val_range w₁ w₂).2.le

theorem f01_not_le_zero (w₁ w₂ : BitVec 64) : Val.le (decode b64 (Float01.bits64 w₁ w₂)) (.fin false 0 0) = false := by
  rw [C11.float01_decode, Bool.eq_false_iff, Ne, le_fin_iff, rval_zero, not_le]
  exact (f01val_range w₁ w₂).1

/-- `p ≥ 1` is certain (IEEE `1.0 <= p`; includes `+inf`), for every pair of words -/
theorem certain (p : Nat) (hp : Val.le (.fin false 1 0) (decode b64 p) = true) (w₁ w₂ : BitVec 64) :
    outcome p w₁ w₂ = true :=
  Val.le_trans (f01_le_one w₁ w₂) hp

/-- `p <= 0.0` (IEEE; includes `±0`, negatives, `-inf`) and NaN never succeed -/
theorem never (p : Nat) (hp : Val.le (decode b64 p) (.fin false 0 0) = true ∨ (decode b64 p).isNaN = true)
    (w₁ w₂ : BitVec 64) : outcome p w₁ w₂ = false := by
  rw [Bool.eq_false_iff]
  intro h
  rcases hp with hp | hp
  · exact absurd (Val.le_trans h hp) (by rw [f01_not_le_zero]; decide)
  · rw [(Val.le_not_nan h).2] at hp; cases hp

/-- monotone in `p` (IEEE `p <= q`) for a fixed stream -/
theorem monotone (p q : Nat) (hpq : Val.le (decode b64 p) (decode b64 q) = true) (w₁ w₂ : BitVec 64)
    (h : outcome p w₁ w₂ = true) : outcome q w₁ w₂ = true :=
  Val.le_trans h hpq

/-- `Random::chance(p)` is `Bernoulli::new(p).sample`, `bernoulli p` in the model: with two words left it returns, and
consumes exactly those two -/
theorem bernoulli_total (p : Nat) (w₁ w₂ : BitVec 64) (ws : Words) :
    ∃ b, bernoulli p (w₁ :: w₂ :: ws) = some (b, ws) := ⟨_, rfl⟩

/-! The probability of `true`, for a positive normal `p = e·2^52 + a` with `e ∈ [959, 1022]` (`2^-64 ≤ p < 1`): three
separate statements, whose composition is left to the reader.
* `outcome_iff_bits`: the IEEE comparison is the comparison of the bit patterns `f01 w₁ m ≤ p`, `m` the top 52 bits of `w₂`;
* `count_true`: the number of `(w, m) ∈ 2^64 × 2^52` with `f01 w m ≤ p` is `2^(e-959)·(2^52 + a + 1)`;
* `measure_bound`: rational algebra on `N = 2^(e-959)·(2^52 + a + 1)` and `val p = (2^52 + a)·2^(e-959)/2^116`, both written out in
  its statement: `0 ≤ N/2^116 − val p ≤ val p · 2^-52` (it does not need its hypotheses `he`, `ha`).
No theorem says that this `N` is `count_true`'s count, that `val p` is `rval` of `decode p`, or that each `m` has `2^12` words `w₂`;
with these, `|P(true) − p| = 2^(e-1075) ≤ p·2^-52`.  The cases `p < 2^-64`, for which the property has its absolute term
`2^-64`, are not treated. -/

/-- bit pattern of `Float01` from the first word and the mantissa; the body of `clz64` is written out, so `f01_bits` and
`expField` hold by unfolding it -/
def f01 (w m : ℕ) : ℕ := (1022 - (if w = 0 then 64 else 63 - Nat.log2 w)) * 2 ^ 52 + m

theorem f01_bits (w₁ w₂ : BitVec 64) : Float01.bits64 w₁ w₂ = f01 w₁.toNat (w₂.toNat / 2 ^ 12) := by
  rw [C11.float01_bits64]; rfl

theorem expField (w : ℕ) (hw : w < 2 ^ 64) :
    1022 - (if w = 0 then 64 else 63 - Nat.log2 w) = if w = 0 then 958 else 959 + Nat.log2 w := by
  split
  · rfl
  · rename_i h
    have : Nat.log2 w < 64 := (Nat.log2_lt h).2 hw
    omega

theorem digits_le_iff (B E m e a : ℕ) (hm : m < B) (ha : a < B) :
    E * B + m ≤ e * B + a ↔ E < e ∨ (E = e ∧ m ≤ a) := by
  rcases Nat.lt_trichotomy E e with h | rfl | h
  · have := Nat.mul_le_mul_right B (Nat.succ_le_of_lt h)
    rw [Nat.succ_mul] at this
    exact ⟨fun _ => Or.inl h, fun _ => by omega⟩
  · exact ⟨fun h => Or.inr ⟨rfl, by omega⟩, fun h => by omega⟩
  · have := Nat.mul_le_mul_right B (Nat.succ_le_of_lt h)
    rw [Nat.succ_mul] at this
    exact ⟨fun _ => by omega, fun h' => by omega⟩

/-- `Float01(w, m) ≤ p` (bit patterns) iff `w` is below the binade boundary of `p`, or in the binade
with `m ≤ a` -/
theorem f01_le_iff (e a w m : ℕ) (he : 959 ≤ e) (he' : e ≤ 1022) (ha : a < 2 ^ 52) (hw : w < 2 ^ 64) (hm : m < 2 ^ 52) :
    f01 w m ≤ e * 2 ^ 52 + a ↔ w < 2 ^ (e - 959) ∨ (2 ^ (e - 959) ≤ w ∧ w < 2 ^ (e - 959 + 1) ∧ m ≤ a) := by
  unfold f01
  rw [expField w hw, digits_le_iff _ _ _ _ _ hm ha]
  split
  · subst w
    have : 0 < 2 ^ (e - 959) := Nat.two_pow_pos _
    exact ⟨fun _ => Or.inl this, fun _ => Or.inl (by omega)⟩
  · rename_i h0
    -- `959 + log2 w` against `e`: `log2 w < k ↔ w < 2^k`, `log2 w = k ↔ 2^k ≤ w < 2^(k+1)`
    have hl := Nat.log2_lt (n := w) (k := e - 959) h0
    have he2 := Nat.log2_eq_iff (n := w) (k := e - 959) h0
    rw [← hl, ← and_assoc, ← he2]
    omega

theorem count_true (e a : ℕ) (he : 959 ≤ e) (he' : e ≤ 1022) (ha : a < 2 ^ 52) :
    (((Finset.range (2 ^ 64)) ×ˢ (Finset.range (2 ^ 52))).filter (fun x => f01 x.1 x.2 ≤ e * 2 ^ 52 + a)).card
      = 2 ^ (e - 959) * (2 ^ 52 + a + 1) := by
  have hAle : 2 * 2 ^ (e - 959) ≤ 2 ^ 64 := by
    rw [← pow_succ']; exact Nat.pow_le_pow_right (by norm_num) (by omega)
  generalize hA : 2 ^ (e - 959) = A at hAle
  have hset : ((Finset.range (2 ^ 64)) ×ˢ (Finset.range (2 ^ 52))).filter (fun x => f01 x.1 x.2 ≤ e * 2 ^ 52 + a)
      = (Finset.range A ×ˢ Finset.range (2 ^ 52)) ∪ (Finset.Ico A (2 * A) ×ˢ Finset.range (a + 1)) := by
    ext ⟨w, m⟩
    simp only [Finset.mem_filter, Finset.mem_product, Finset.mem_range, Finset.mem_union, Finset.mem_Ico]
    constructor
    · rintro ⟨⟨hw, hm⟩, h⟩
      rw [f01_le_iff e a w m he he' ha hw hm] at h
      omega
    · intro h
      have hw : w < 2 ^ 64 := by omega
      have hm : m < 2 ^ 52 := by omega
      exact ⟨⟨hw, hm⟩, (f01_le_iff e a w m he he' ha hw hm).2 (by omega)⟩
  rw [hset, Finset.card_union_of_disjoint, Finset.card_product, Finset.card_product, Finset.card_range, Finset.card_range,
    Finset.card_range, Nat.card_Ico, Nat.two_mul, Nat.add_sub_cancel, ← Nat.mul_add, Nat.add_assoc]
  rw [Finset.disjoint_left]
  rintro ⟨w, m⟩ h1 h2
  simp only [Finset.mem_product, Finset.mem_range, Finset.mem_Ico] at h1 h2
  omega

/-- with `P` pairs per unit of mantissa, `B` mantissas per binade and `C` pairs in all: the count exceeds
the value by one unit `P/C`, which is at most the fraction `1/B` of the value -/
theorem excess_le {B C P a : ℚ} (hB : 0 < B) (hC : 0 < C) (hP : 0 < P) (ha : 0 ≤ a) :
    0 ≤ P * (B + a + 1) / C - (B + a) * P / C ∧ P * (B + a + 1) / C - (B + a) * P / C ≤ (B + a) * P / C * (1 / B) := by
  have hd : P * (B + a + 1) / C - (B + a) * P / C = P / C := by ring
  have hv : (B + a) * P / C * (1 / B) = (B + a) / B * (P / C) := by ring
  have hq : 0 ≤ P / C := (div_pos hP hC).le
  rw [hd, hv]
  exact ⟨hq, le_mul_of_one_le_left hq ((one_le_div hB).2 (le_add_of_nonneg_right ha))⟩

/-- rational algebra on the two written-out quantities; the comment before `f01` says what they stand for -/
theorem measure_bound (e a : ℕ) (he : 959 ≤ e) (ha : a < 2 ^ 52) :
    let N : ℚ := 2 ^ (e - 959) * (2 ^ 52 + a + 1)
    let valp : ℚ := (2 ^ 52 + a) * 2 ^ (e - 959) / 2 ^ 116
    0 ≤ N / 2 ^ 116 - valp ∧ N / 2 ^ 116 - valp ≤ valp * (1 / 2 ^ 52) :=
  excess_le (by positivity) (by positivity) (by positivity) a.cast_nonneg

theorem normal_le_iff (ef mf e a : ℕ) (hmf : mf < 2 ^ 52) (ha : a < 2 ^ 52) :
    rval false (2 ^ 52 + mf) ((ef : ℤ) - 1075) ≤ rval false (2 ^ 52 + a) ((e : ℤ) - 1075) ↔
      ef * 2 ^ 52 + mf ≤ e * 2 ^ 52 + a := by
  rw [digits_le_iff _ _ _ _ _ hmf ha]
  rcases Nat.lt_trichotomy ef e with h | rfl | h
  · have := rval_lt_of_exp_lt 52 (2 ^ 52 + mf) (2 ^ 52 + a) ((ef : ℤ) - 1075) ((e : ℤ) - 1075) (by omega) (by omega) (by omega)
    exact ⟨fun _ => Or.inl h, fun _ => this.le⟩
  · rw [rval_le_rval_iff]; omega
  · have := rval_lt_of_exp_lt 52 (2 ^ 52 + a) (2 ^ 52 + mf) ((e : ℤ) - 1075) ((ef : ℤ) - 1075) (by omega) (by omega) (by omega)
    exact ⟨fun h' => absurd h' (not_le.2 this), fun h' => by omega⟩

/-- for `2^-64 ≤ p < 1` the IEEE comparison is the comparison of bit patterns -/
theorem outcome_iff_bits (e a : ℕ) (he : 959 ≤ e) (he' : e ≤ 1022) (ha : a < 2 ^ 52) (w₁ w₂ : BitVec 64) :
    outcome (e * 2 ^ 52 + a) w₁ w₂ = true ↔ f01 w₁.toNat (w₂.toNat / 2 ^ 12) ≤ e * 2 ^ 52 + a := by
  unfold outcome
  rw [C11.float01_decode, C11.decode_normal64 e a (by omega) (by omega) ha, le_fin_iff]
  have hk := C11.clz64_le w₁
  have hm : w₂.toNat / 2 ^ 12 < 2 ^ 52 := by omega
  have hexp : (-53 - (clz64 w₁ : ℤ)) = ((1022 - clz64 w₁ : ℕ) : ℤ) - 1075 := by omega
  rw [hexp, normal_le_iff _ _ _ _ hm ha, ← C11.float01_bits64, f01_bits]

example : Val.le (.fin false 1 0) (decode b64 0x3FF0000000000000) = true := by decide
example : Val.le (decode b64 0x8000000000000000) (.fin false 0 0) = true := by decide

end Urandom.C14
