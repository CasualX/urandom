import Urandom.Model.Seq
import Urandom.Lemmas.Index
import Urandom.Generated.GlueRandomDistr
import Urandom.Generated.GlueDistr
/-!
# `Uniform<T>`, `Random::range`, `Random::choose` as translated from the source (C04, C05, C06)

`tools/extract_glue.py` translates the current text of `Uniform<T>` (src/distr/uniform.rs: the two `From` impls, the constructors, the
`UniformSampler` methods, `sample`) and of `Random::range` / `choose` / `choose_mut` (src/random.rs).  Proved for every lawful monad, sampler
and generator: the wrapper adds nothing - `a..b` goes to the sampler's exclusive constructor, `a..=b` to the inclusive one, `new*` unwrap (an
empty range panics); `range` is `Uniform::from(interval)` then one sample; `choose` is one `index(len)` then `get`.  With the model's integer
sampler, `range` over `usize` is the model's `rangeUsize`, the function the partial shuffle (C05) draws through.
-/
namespace Urandom.C04R
open Urandom.Glue Urandom.Generated.Glue

section generic
variable {m : Type → Type} [Monad m] [LawfulMonad m] [Panics m] {σ T S ε : Type} (R : Rng m σ) (Sm : Sampler m σ T S ε)

theorem uniform_from_range (r : Range T) :
    Uniform.from_range R Sm r = (unwrap (Sm.try_new r.start r.end_) >>= fun s => pure ⟨s⟩) := by simp [Uniform.from_range]

theorem uniform_from_range_inclusive (lo hi : T) :
    Uniform.from_range_inclusive R Sm ⟨(lo, hi)⟩ = (unwrap (Sm.try_new_inclusive lo hi) >>= fun s => pure ⟨s⟩) := by
  simp [Uniform.from_range_inclusive]

theorem uniform_constructors (lo hi : T) :
    Uniform.new R Sm lo hi = (unwrap (Sm.try_new lo hi) >>= fun s => pure ⟨s⟩) ∧
    Uniform.new_inclusive R Sm lo hi = (unwrap (Sm.try_new_inclusive lo hi) >>= fun s => pure ⟨s⟩) ∧
    Uniform.try_new R Sm lo hi = pure (mapOk Uniform.mk (Sm.try_new lo hi)) ∧
    Uniform.try_new_inclusive R Sm lo hi = pure (mapOk Uniform.mk (Sm.try_new_inclusive lo hi)) ∧
    Uniform.sampler_try_new R Sm lo hi = pure (mapOk Uniform.mk (Sm.try_new lo hi)) ∧
    Uniform.sampler_try_new_inclusive R Sm lo hi = pure (mapOk Uniform.mk (Sm.try_new_inclusive lo hi)) := by
  refine ⟨?_, ?_, ?_, ?_, ?_, ?_⟩ <;>
    simp [Uniform.new, Uniform.new_inclusive, Uniform.try_new, Uniform.try_new_inclusive, Uniform.sampler_try_new, Uniform.sampler_try_new_inclusive]

theorem uniform_sample (u : Glue.Uniform S) : Uniform.sample R Sm u = (Sm.dist u.sampler).sample R := by simp [Uniform.sample]

theorem random_range {I : Type} (from_ : I → m (Dist m σ T)) (i : I) : Random.range R from_ i = (from_ i >>= fun d => d.sample R) := by
  simp [Random.range]

theorem random_choose (idx : BitVec 64 → m (BitVec 64)) (s : Slice T) :
    Random.choose R idx s = (idx s.len >>= fun i => pure (s.get i)) ∧ Random.choose_mut R idx s = (idx s.len >>= fun i => pure (s.get i)) := by
  constructor <;> simp [Random.choose, Random.choose_mut, Slice.get_mut]

end generic

abbrev DrawM := StateT Words Option

/-- the `Mock` generator as the record of its methods; `fill_bytes` and `jump` panic (nothing below calls them) -/
def mockR : Rng DrawM Words :=
  ⟨Mock.u32, Mock.u64, Mock.f32, Mock.f64, fun _ _ => none, fun _ => none, fun ws => some (ws, ws)⟩

/-- `UniformInt<usize>` of the model as a sampler -/
def usizeSampler : Sampler DrawM Words Nat UniformInt UniformError :=
  ⟨fun lo hi => UniformInt.tryNew IntTy.usize lo hi false, fun lo hi => UniformInt.tryNew IntTy.usize lo hi true,
   fun d => ⟨fun _ => UniformInt.sample IntTy.usize d⟩⟩

/-- `Uniform::<usize>::from(lo..hi)` as a distribution, from the translated `From` impl and the translated `sample` -/
def uniformFromRange (r : Range Nat) : DrawM (Dist DrawM Words Nat) :=
  Uniform.from_range mockR usizeSampler r >>= fun u => pure ⟨fun R => Uniform.sample R usizeSampler u⟩

/-- `self.range(lo..hi)` over `usize` as translated is the model's `rangeUsize` (exclusive bounds, an empty range panics, one sample) -/
theorem range_usize_is_model (lo hi : Nat) : Random.range mockR uniformFromRange ⟨lo, hi⟩ = Seq.rangeUsize lo hi := by
  funext ws
  simp only [Random.range, uniformFromRange, Uniform.from_range, Uniform.sample, Seq.rangeUsize, usizeSampler]
  cases h : UniformInt.tryNew IntTy.usize lo hi false with
  | error e => simp [unwrap, bind, StateT.bind, Panics.panic]
  | ok d =>
    simp only [unwrap, bind, StateT.bind, pure, StateT.pure, Option.bind]

example : Random.range mockR uniformFromRange ⟨3, 3⟩ [1#64, 2#64] = none := by
  rw [range_usize_is_model]; rfl

def sliceOf (a : Array Nat) : Slice Nat := ⟨BitVec.ofNat 64 a.size, fun i => a[i.toNat]?⟩

/-- the model's `index` (`Random::index`, Props/C05T) on `usize` values -/
def indexBV (L : BitVec 64) : DrawM (BitVec 64) := fun ws => (index L.toNat ws).map fun r => (BitVec.ofNat 64 r.1, r.2)

/-- `Random::choose` / `choose_mut` as translated are the model's `Seq.choose`, the function C06's theorems are about -/
theorem choose_is_model (a : Array Nat) (hs : a.size < 2 ^ 64) (ws : Words) :
    Random.choose mockR indexBV (sliceOf a) ws = Seq.choose a ws ∧ Random.choose_mut mockR indexBV (sliceOf a) ws = Seq.choose a ws := by
  have hL : (BitVec.ofNat 64 a.size).toNat = a.size := Nat.mod_eq_of_lt hs
  have key : (indexBV (sliceOf a).len >>= fun i => (pure ((sliceOf a).get i) : DrawM (Option Nat))) ws = Seq.choose a ws := by
    simp only [bind, StateT.bind, indexBV, sliceOf, hL, Seq.choose, pure, StateT.pure]
    cases h : index a.size ws with
    | none => rfl
    | some r =>
      -- the index comes back through `usize`: the same element when it is below the length, no element on either side of an empty slice
      simp only [Option.map, Option.bind, BitVec.toNat_ofNat]
      by_cases h0 : a.size = 0
      · rw [Array.getElem?_eq_none (by omega), Array.getElem?_eq_none (by omega)]
      · rw [Nat.mod_eq_of_lt (by have := index_lt a.size (by omega) hs ws r.2 r.1 h; omega)]
  have hc := random_choose mockR indexBV (sliceOf a)
  exact ⟨hc.1 ▸ key, hc.2 ▸ key⟩

end Urandom.C04R
