import Urandom.Lemmas.BlockSim
import Urandom.Lemmas.BlockWindow
import Urandom.Props.C02
/-
C03 - The CSPRNG never hands out the same keystream bytes twice.

Model: `Urandom.Block` (tied to `src/rng/block.rs` + `src/rng/chacha.rs` by the `chacha`
correspondence stream: random histories over u32/u64/f32/f64/fill/jump/clone/split, every output and
the serde-visible (counter, stream, index) compared).  The theorems use the *ghost* instance of the
same polymorphic model, whose batch elements are positions `(stream, block counter, byte offset)`
in unbounded logical coordinates, and transfer to the bytes by parametricity.
The model is proved equal to the translated `BlockRngImpl` in `Props/C03T.lean`.
-/
namespace Urandom.C03
open Urandom.Block Urandom.ChaCha

/-- C03: no keystream position is used for two outputs of the same generator, for every interleaving of word, float and byte-fill
requests of any length with jumps, from any stream id and block counter (the statement is about positions, so no key occurs; `buf`
enters only as `buf 0`, the default content of the fresh buffer) -/
theorem no_reuse (S C : Nat) (buf : Nat → Pos) (ops : List Op) :
    (run posCore (Block.new (S, C) (buf 0)) ops).1.Nodup :=
  Block.no_reuse S C (fun _ => buf 0) ops

/-- every issued position lies in the past of the final core, so it can never be generated again -/
theorem issued_in_past (S C : Nat) (buf : Nat → Pos) (ops : List Op) :
    ∀ p ∈ (run posCore (Block.new (S, C) (buf 0)) ops).1,
      Past (run posCore (Block.new (S, C) (buf 0)) ops).2.core.1 (run posCore (Block.new (S, C) (buf 0)) ops).2.core.2 p := by
  simpa [Block.new] using (run_inv ops (empty_inv (S, C) (2 ^ 32 - 1) (by omega) (fun _ => buf 0))).past

def stBytes (b : St W32) : List (BitVec 8) := b.words.flatMap wordBytes

/-- the keystream: byte `off` of Bernstein's block function at block counter `C mod 2^64` of
stream `S mod 2^64` under the key -/
def ks (N : Nat) (key : State) (p : Pos) : BitVec 8 :=
  (stBytes (specBlock N key (BitVec.ofNat 64 p.2.1) (BitVec.ofNat 64 p.1))).getD p.2.2 0#8

/-- the actual core state that corresponds to logical coordinates `(S, C)` -/
def atPos (key : State) (c : Nat × Nat) : State :=
  (key.setCounter (BitVec.ofNat 64 c.2)).setStream (BitVec.ofNat 64 c.1)

theorem stBytes_length (b : St W32) : (stBytes b).length = 64 := by
  simp [stBytes, St.words, wordBytes]

theorem batchBytes_eq (b : St W32 × St W32 × St W32 × St W32) :
    batchBytes b = stBytes b.1 ++ stBytes b.2.1 ++ stBytes b.2.2.1 ++ stBytes b.2.2.2 := by
  simp [batchBytes, stBytes]

theorem getD_append4 (l0 l1 l2 l3 : List (BitVec 8)) (h0 : l0.length = 64) (h1 : l1.length = 64)
    (h2 : l2.length = 64) (i : Nat) (hi : i < 256) :
    (l0 ++ l1 ++ l2 ++ l3).getD i 0#8 =
      (if i / 64 = 0 then l0 else if i / 64 = 1 then l1 else if i / 64 = 2 then l2 else l3).getD (i % 64) 0#8 := by
  simp only [List.getD_eq_getElem?_getD, List.getElem?_append, List.length_append, h0, h1, h2]
  obtain ⟨q, r, rfl, hr, hq⟩ : ∃ q r, i = 64 * q + r ∧ r < 64 ∧ q < 4 := ⟨i / 64, i % 64, by omega, by omega, by omega⟩
  rw [show (64 * q + r) / 64 = q by omega, show (64 * q + r) % 64 = r by omega]
  obtain rfl | rfl | rfl | rfl : q = 0 ∨ q = 1 ∨ q = 2 ∨ q = 3 := by omega
  · rw [if_pos (by omega), if_pos (by omega), if_pos (by omega), show 64 * 0 + r = r by omega]; rfl
  · rw [if_pos (by omega), if_pos (by omega), if_neg (by omega), show 64 * 1 + r - 64 = r by omega]; rfl
  · rw [if_pos (by omega), if_neg (by omega), show 64 * 2 + r - (64 + 64) = r by omega]; rfl
  · rw [if_neg (by omega), show 64 * 3 + r - (64 + 64 + 64) = r by omega]; rfl

theorem specBlock_atPos (N : Nat) (key : State) (c : Nat × Nat) (a b : BitVec 64) :
    specBlock N (atPos key c) a b = specBlock N key a b := by
  cases key; rfl

theorem atPos_counter (key : State) (c : Nat × Nat) :
    (atPos key c).getCounter = BitVec.ofNat 64 c.2 ∧ (atPos key c).getStream = BitVec.ofNat 64 c.1 := by
  simp [atPos]

/-- the ChaCha core simulates the ghost core: cores are related by `atPos` (logical coordinates reduced to the 64-bit counter and stream id),
and a ghost position is sent to its keystream byte `ks` -/
theorem chacha_sim (N : Nat) (key : State) :
    Sim posCore (chachaCore N) (ks N key) (fun c st => st = atPos key c) where
  gen := by
    rintro ⟨S, C⟩ st rfl
    obtain ⟨hc, hs⟩ := atPos_counter key (S, C)
    obtain ⟨b0, b1, b2, b3⟩ := C02.batch_is_keystream N (atPos key (S, C))
    refine ⟨?_, ?_⟩
    · show (block N (atPos key (S, C))).2 = atPos key (S, C + 4)
      rw [(C02.batch_advances N _).2.2, hc]
      rw [show BitVec.ofNat 64 C + 4 = BitVec.ofNat 64 (C + 4) from BitVec.ofNat_add_ofNat C 4]
      cases key; rfl
    · intro i hi
      show ks N key (posBatch S C i) = ((batchBytes (block N (atPos key (S, C))).1).toArray).getD i 0#8
      rw [Array.getD_eq_getD_getElem?, List.getElem?_toArray, ← List.getD_eq_getElem?_getD, batchBytes_eq,
        getD_append4 _ _ _ _ (stBytes_length _) (stBytes_length _) (stBytes_length _) i hi,
        b0, b1, b2, b3, hc, hs]
      simp only [specBlock_atPos, ks, posBatch]
      have h3 : i / 64 = 0 ∨ i / 64 = 1 ∨ i / 64 = 2 ∨ i / 64 = 3 := by omega
      rcases h3 with h | h | h | h <;> simp [h, BitVec.ofNat_add_ofNat]
  jmp := by
    rintro ⟨S, C⟩ st rfl
    show State.jump (atPos key (S, C)) = atPos key (S + 1, C)
    rw [State.jump, (atPos_counter key (S, C)).2]
    exact congrArg _ (BitVec.ofNat_add_ofNat S 1)

theorem run_chacha (N : Nat) (key : State) (S C idx : Nat) (hidx : 256 ≤ idx) (stale : Nat → BitVec 8) (ghost : Nat → Pos)
    (ops : List Op) :
    (run (chachaCore N) ⟨atPos key (S, C), idx, stale⟩ ops).1 = (run posCore ⟨(S, C), idx, ghost⟩ ops).1.map (ks N key) :=
  (run_rel (whole := False) (chacha_sim N key) ops ⟨rfl, rfl, fun i h2 h1 => by simp at h1; omega⟩).1

/-- C03: every byte a ChaCha generator returns is the keystream byte of its ghost position - never stale, zero or default buffer content -,
whatever the (unreachable) buffer holds while `index ≥ 256` -/
theorem outputs_are_keystream (N : Nat) (key : State) (S C idx : Nat) (hidx : 256 ≤ idx)
    (stale : Nat → BitVec 8) (ops : List Op) :
    ∃ ghostBuf : Nat → Pos,
      (run (chachaCore N) ⟨atPos key (S, C), idx, stale⟩ ops).1 =
        (run posCore ⟨(S, C), idx, ghostBuf⟩ ops).1.map (ks N key) ∧
      (run posCore ⟨(S, C), idx, ghostBuf⟩ ops).1.Nodup :=
  ⟨fun _ => (0, 0, 0), run_chacha N key S C idx hidx stale _ ops, no_reuse_from_empty S C idx hidx _ ops⟩

/-- `jump` moves to the next stream id and invalidates the buffer: nothing of the old stream is served afterwards -/
theorem jump_next_stream (S C idx : Nat) (buf : Nat → Pos) (ops : List Op) :
    (jump posCore ⟨(S, C), idx, buf⟩).core = (S + 1, C) ∧ (jump posCore ⟨(S, C), idx, buf⟩).index = 2 ^ 32 - 1 ∧
    ∀ p ∈ (run posCore (jump posCore ⟨(S, C), idx, buf⟩) ops).1, S + 1 ≤ p.1 := by
  refine ⟨rfl, rfl, ?_⟩
  have h0 : Box (S + 1) C (jump posCore ⟨(S, C), idx, buf⟩) [] := empty_box (S + 1) C _ (by omega) buf
  simpa using (run_box ops h0).lowS.issued

theorem no_jump_stream_eq (ops : List Op) (hj : Op.jump ∉ ops) (s : BS (Nat × Nat) Pos) :
    (run posCore s ops).2.core.1 = s.core.1 :=
  run_moves (C := posCore) (P := fun t _ => t.core.1 = s.core.1) ⟨fun h _ _ => h, fun h => h, fun h => h⟩ ops
    (fun h => absurd h hj) (l := []) rfl

/-- C03 / C08: after `split()` parent and child never return the same keystream position, as long as the child does not itself jump: the
child continues the old stream, the parent moves to the next stream id with an invalidated buffer -/
theorem split_disjoint (S C : Nat) (buf : Nat → Pos) (before opsChild opsParent : List Op)
    (hC : Op.jump ∉ opsChild) :
    let s := (run posCore (Block.new (S, C) (buf 0)) before).2
    let pc := Block.split posCore s
    ∀ p ∈ (run posCore pc.1 opsChild).1, ∀ q ∈ (run posCore pc.2 opsParent).1, p ≠ q := by
  intro s pc p hp q hq e
  -- child: everything issued lies in the past of its core, whose stream id has not moved
  have hpast := (run_inv opsChild (run_inv before (empty_inv (S, C) (2 ^ 32 - 1) (by omega) (fun _ => buf 0)))).past p
    (List.mem_append_right _ hp)
  rw [no_jump_stream_eq opsChild hC] at hpast
  change Past s.core.1 _ p at hpast
  -- parent: everything after the jump has a later stream id
  have hq_ge := (jump_next_stream s.core.1 s.core.2 s.index s.buf opsParent).2.2 q hq
  rw [← e] at hq_ge
  rcases hpast with h | ⟨h, _⟩ <;> exact absurd hq_ge (by omega)

/-- the coordinates the cipher actually sees: stream id and block counter reduced modulo 2^64 -/
def actual (p : Pos) : Nat × Nat × Nat := (p.1 % 2 ^ 64, p.2.1 % 2 ^ 64, p.2.2)

theorem mod_inj_of_window (a b lo : Nat) (ha : lo ≤ a) (hb : lo ≤ b) (ha' : a < lo + 2 ^ 64) (hb' : b < lo + 2 ^ 64)
    (h : a % 2 ^ 64 = b % 2 ^ 64) : a = b := by
  omega

/-- the actual coordinates tell apart two positions of a window of `2^64` stream ids by `2^64` block counters before the core -/
theorem actual_inj {S C S' C' : Nat} {p q : Pos} (pp : Past S' C' p) (pq : Past S' C' q)
    (bp : S ≤ p.1 ∧ C ≤ p.2.1 ∧ p.2.1 < C') (bq : S ≤ q.1 ∧ C ≤ q.2.1 ∧ q.2.1 < C') (hS : S' < S + 2 ^ 64) (hC : C' ≤ C + 2 ^ 64)
    (he : actual p = actual q) : p = q := by
  simp only [actual, Prod.mk.injEq] at he
  have hs : p.1 = q.1 := mod_inj_of_window p.1 q.1 S bp.1 bq.1
    (by rcases pp with h | ⟨h, _⟩ <;> omega) (by rcases pq with h | ⟨h, _⟩ <;> omega) he.1
  have hc : p.2.1 = q.2.1 := mod_inj_of_window p.2.1 q.2.1 C bp.2.1 bq.2.1 (by omega) (by omega) he.2.1
  exact Prod.ext hs (Prod.ext hc he.2.2)

theorem actual_nodup {S C S' C' : Nat} {l : List Pos} (hnd : l.Nodup) (hpast : ∀ p ∈ l, Past S' C' p)
    (hbox : ∀ p ∈ l, S ≤ p.1 ∧ C ≤ p.2.1 ∧ p.2.1 < C') (hS : S' < S + 2 ^ 64) (hC : C' ≤ C + 2 ^ 64) : (l.map actual).Nodup := by
  rw [List.Nodup, List.pairwise_map]
  exact hnd.imp_of_mem fun hp hq hne he => hne (actual_inj (hpast _ hp) (hpast _ hq) (hbox _ hp) (hbox _ hq) hS hC he)

/-- C03 in the coordinates the hardware sees: no position of the real cipher is used twice as long as the generator has made fewer than
`2^64` jumps and consumed at most `2^64` blocks since it was created.  Beyond that the 64-bit counters wrap and positions necessarily
repeat: the hypothesis is the capacity of the cipher's position space. -/
theorem no_reuse_actual (S C : Nat) (buf : Nat → Pos) (ops : List Op)
    (hS : (run posCore (Block.new (S, C) (buf 0)) ops).2.core.1 < S + 2 ^ 64)
    (hC : (run posCore (Block.new (S, C) (buf 0)) ops).2.core.2 ≤ C + 2 ^ 64) :
    ((run posCore (Block.new (S, C) (buf 0)) ops).1.map actual).Nodup := by
  have hbox0 : Box S C (Block.new (S, C) (buf 0)) [] := empty_box S C _ (by omega) _
  exact actual_nodup (no_reuse S C buf ops) (issued_in_past S C buf ops) (by simpa using (run_box ops hbox0).issued) hS hC

/-- the stronger reading ("the child may jump") is false by design: a child that jumps lands on
its parent's stream id -/
example : (jump posCore (Block.split posCore (Block.new ((5, 9) : Nat × Nat) ((0, 0, 0) : Pos))).1).core =
    (Block.split posCore (Block.new ((5, 9) : Nat × Nat) ((0, 0, 0) : Pos))).2.core := rfl

/-- non-vacuity: a concrete mixed history from a fresh generator -/
example : (run posCore (Block.new ((0, 1) : Nat × Nat) ((0, 0, 0) : Pos)) [.u32, .fill 250, .u64, .jump, .fill 300, .u32]).1.length = 566 := by
  decide +kernel

end Urandom.C03
