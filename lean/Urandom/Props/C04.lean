import Urandom.Lemmas.UniformInt
import Urandom.Lemmas.Lemire
/-
C04 - Uniform integer ranges: always inside the range and exactly unbiased.

Model: `Urandom.Model.UniformInt` (tied to `src/distr/uniform/int.rs`, `Random::range`,
`Random::index`, `src/distr/dice.rs` by the `uint`/`index`/`dice` correspondence streams).  The model is proved equal to the
translated source in `Props/C04T.lean` (sample, constructors), `C04D.lean` (`Dice`) and `C04R.lean` (`Uniform<T>`, `Random::range`).
Not stated: a probability.  `sample_uniform` counts, for one iteration, the word values on which each value of the range is returned (the
same number for each); "exactly uniform whenever the generator is", over the whole loop, is not a theorem here: no distribution on words is
defined.
-/
namespace Urandom.C04
open UniformInt

/-- all instantiations in the crate (64-bit and 32-bit targets) are legal -/
theorem all_types_valid :
    ∀ t ∈ [IntTy.i8, .u8, .i16, .u16, .i32, .u32, .i64, .u64, .isize, .usize, .isize32, .usize32], Valid t := by
  intro t ht
  simp only [List.mem_cons, List.mem_nil_iff, or_false] at ht
  rcases ht with rfl | rfl | rfl | rfl | rfl | rfl | rfl | rfl | rfl | rfl | rfl | rfl <;>
    exact ⟨by decide, by decide⟩

/-- `try_new` / `try_new_inclusive` fail with `EmptyRange` exactly when the range is empty in the type's own order, and never with
`NonFinite`.  (`Uniform::new`, `From<Range>` and `Random::range` unwrap this result: `Props/C04R.lean`.) -/
theorem tryNew_error_iff (t : IntTy) (lo hi : Nat) (incl : Bool) :
    (tryNew t lo hi incl = .error .EmptyRange ↔
      (if incl then t.toInt hi < t.toInt lo else t.toInt hi ≤ t.toInt lo)) ∧
    (tryNew t lo hi incl ≠ .error .NonFinite) := by
  unfold tryNew
  cases incl <;> simp only [Bool.false_eq_true, ↓reduceIte, ge_iff_le, gt_iff_lt] <;> split <;> simp_all

/-- the number of values of a non-empty range, as an integer -/
def card (t : IntTy) (lo hi : Nat) (incl : Bool) : Int := t.toInt hi - t.toInt lo + (if incl then 1 else 0)

/-- the stored range is the number of values modulo `2^b`: `0` exactly for the full inclusive range -/
theorem tryNew_ok (t : IntTy) (hv : Valid t) (lo hi : Nat) (incl : Bool) (hlo : lo < t.M) (hhi : hi < t.M)
    (d : UniformInt) (h : tryNew t lo hi incl = .ok d) :
    d.base = lo ∧ d.range < t.M ∧ 1 ≤ card t lo hi incl ∧ card t lo hi incl ≤ t.M ∧
      ((d.range : Int) = card t lo hi incl ∨ (d.range = 0 ∧ card t lo hi incl = t.M)) := by
  obtain ⟨rfl, hne⟩ := tryNew_ok_eq t lo hi incl d h
  have s1 := wsub_lt t.M hi lo (M_pos t)
  unfold card
  cases incl
  · simp only [Bool.false_eq_true, ↓reduceIte] at hne ⊢
    have s2 := (toInt_rep t hv lo hlo).wsub (toInt_rep t hv hi hhi) hlo hhi (by omega)
    exact ⟨trivial, s1, by omega⟩
  · simp only [↓reduceIte] at hne ⊢
    have s2 := (toInt_rep t hv lo hlo).wsub (toInt_rep t hv hi hhi) hlo hhi hne
    obtain ⟨w1, w2⟩ := wadd_spec t.M _ 1 s1 (by omega)
    refine ⟨trivial, w1, ?_⟩
    rcases w2 with w2 | w2 <;> omega

theorem firstAccepted_some (t : IntTy) (d : UniformInt) (ws : Words) (x : Nat) (ws' : Words)
    (h : firstAccepted t d ws = some (x, ws')) : ∃ v, v < t.B ∧ Accepts t d.range v ∧ x = valueOf t d v := by
  fun_induction firstAccepted t d ws with
  | case1 => simp at h
  | case2 w ws ha => injection h with h; injection h with h1 h2; exact ⟨wordValue t w, wordValue_lt t w, ha, h1.symm⟩
  | case3 w ws ha ih => exact ih h

theorem offset_lt (t : IntTy) (d : UniformInt) (hr : 0 < d.range) (hrM : d.range < t.M)
    (v : Nat) (hvB : v < t.B) : v * d.range / t.B % t.M = v * d.range / t.B ∧ v * d.range / t.B < d.range := by
  have h2 : v * d.range / t.B < d.range := Nat.div_lt_of_lt_mul (Nat.mul_lt_mul_of_pos_right hvB hr)
  exact ⟨Nat.mod_eq_of_lt (by omega), h2⟩

/-- C04, range clause: every sample of a successfully constructed distribution lies inside the requested range, for every
word sequence (any generator), the full-type range included -/
theorem sample_mem (t : IntTy) (hv : Valid t) (lo hi : Nat) (incl : Bool) (hlo : lo < t.M) (hhi : hi < t.M)
    (d : UniformInt) (h : tryNew t lo hi incl = .ok d) (ws ws' : Words) (x : Nat)
    (hs : sample t d ws = some (x, ws')) :
    x < t.M ∧ t.toInt lo ≤ t.toInt x ∧ (if incl then t.toInt x ≤ t.toInt hi else t.toInt x < t.toInt hi) := by
  obtain ⟨hbase, hrM, hc1, hcM, hrange⟩ := tryNew_ok t hv lo hi incl hlo hhi d h
  by_cases hr : d.range = 0
  · -- full type: `lo`, `hi` are the ends of the window, every value lies between them
    cases ws with
    | nil => simp [sample, sampleLoop] at hs
    | cons w ws =>
      rw [sample_full t d hr] at hs
      injection hs with hs; injection hs with h1 h2
      have hx : x < t.M := by rw [← h1]; exact Nat.mod_lt _ (M_pos t)
      obtain ⟨a1, a2, _⟩ := toInt_rep t hv lo hlo
      obtain ⟨b1, b2, _⟩ := toInt_rep t hv hi hhi
      obtain ⟨c1, c2, _⟩ := toInt_rep t hv x hx
      unfold card at hrange hc1
      cases incl <;> simp only [Bool.false_eq_true, ↓reduceIte] at hrange hc1 ⊢ <;> omega
  · have hr' : 0 < d.range := Nat.pos_of_ne_zero hr
    rw [sample_eq t d hr' (by have := M_le_B t hv; omega)] at hs
    obtain ⟨v, hvB, _, hx⟩ := firstAccepted_some t d ws x ws' hs
    obtain ⟨e1, e2⟩ := offset_lt t d hr' hrM v hvB
    rw [valueOf, e1, hbase] at hx
    have b2 := (toInt_rep t hv hi hhi).ub
    have hlt : ((v * d.range / t.B : Nat) : Int) < card t lo hi incl := by omega
    unfold card at hlt
    -- `x` and `lo + offset` represent the same pattern in the type's window
    have key := (toInt_rep t hv x (by rw [hx]; exact wadd_lt _ _ _ (M_pos t))).unique
      (hx ▸ (toInt_rep t hv lo hlo).wadd (lowB_le t) hlo (by split at hlt <;> omega))
    refine ⟨by rw [hx]; exact wadd_lt _ _ _ (M_pos t), by omega, ?_⟩
    cases incl <;> simp only [Bool.false_eq_true, ↓reduceIte] at hlt ⊢ <;> omega

/-- C04, exact uniformity (Lemire): for a range of `r > 0` values every offset `m < r` is returned on exactly the `⌊2^L / r⌋`
consecutive word values starting at `lemireStart`, whatever the loop rejected before -/
theorem sample_uniform (t : IntTy) (hv : Valid t) (d : UniformInt) (hr : 0 < d.range) (hrM : d.range < t.M)
    (hb : d.base < t.M) (zone : Nat) (hz : zone = d.range ∨ zone = t.B % d.range) (m : Nat) (hm : m < d.range) :
    ∀ v, v < t.B →
      (iteration t d zone v = .inl (wadd t.M d.base m) ↔
        (lemireStart t.B d.range m ≤ v ∧ v < lemireStart t.B d.range m + t.B / d.range)) := by
  intro v hvB
  have hrB : d.range ≤ t.B := by have := M_le_B t hv; omega
  rw [iteration_eq t d zone v hr hrB hz, ← lemire_interval t.B d.range m (B_pos t) hr v]
  obtain ⟨e1, e2⟩ := offset_lt t d hr hrM v hvB
  unfold Accepts valueOf
  rw [e1]
  constructor
  · intro h
    by_cases ha : t.B % d.range ≤ v * d.range % t.B
    · simp only [ha, ↓reduceIte, Sum.inl.injEq] at h
      exact ⟨wadd_inj t.M d.base _ _ (by omega) (by omega) hb h, ha⟩
    · simp [ha] at h
  · rintro ⟨h1, h2⟩
    simp [h2, h1]

/-- every word value of an accepted interval is below `2^L`: all `⌊2^L / r⌋` of them can be drawn -/
theorem accepted_interval_in_words (t : IntTy) (d : UniformInt) (hr : 0 < d.range) (m : Nat) (hm : m < d.range)
    (v : Nat) (h : lemireStart t.B d.range m ≤ v ∧ v < lemireStart t.B d.range m + t.B / d.range) : v < t.B :=
  lemire_interval_lt t.B d.range m v (B_pos t) hr hm h

/-- full-type range (`range = 0`): every value has exactly `2^(L-b)` preimages `x + j·2^b` -/
theorem sample_uniform_full (t : IntTy) (hv : Valid t) (d : UniformInt) (hr : d.range = 0) (zone : Nat)
    (x : Nat) (hx : x < t.M) :
    ∀ v, ((v < t.B ∧ iteration t d zone v = .inl x) ↔ ∃ j, j < 2 ^ (t.wbits - t.bits) ∧ v = x + j * t.M) := by
  intro v
  have := trunc_preimage t.wbits t.bits x v hv.le hx
  simp only [iteration, hr, ↓reduceIte, Sum.inl.injEq]
  exact this

/-- fewer than half of all words are rejected -/
theorem rejected_lt_half (t : IntTy) (hv : Valid t) (d : UniformInt) (hr : 0 < d.range) (hrM : d.range < t.M) :
    2 * (t.B % d.range) < t.B :=
  reject_lt_half t.B d.range hr (by have := M_le_B t hv; omega)

/-- the loop returns at the first accepted word and consumes exactly the words before it -/
theorem sample_first_accepted (t : IntTy) (hv : Valid t) (d : UniformInt) (hr : 0 < d.range) (hrM : d.range < t.M)
    (ws : Words) : sample t d ws = firstAccepted t d ws :=
  sample_eq t d hr (by have := M_le_B t hv; omega) ws

/-- `index(len)` is the range `0 .. len` on `usize` -/
theorem index_is_range (len : Nat) (h0 : 0 < len) (hl : len < IntTy.usize.M) :
    tryNew IntTy.usize 0 len false = .ok ⟨0, len⟩ ∧ index len = sample IntTy.usize ⟨0, len⟩ :=
  ⟨tryNew_unsigned IntTy.usize rfl 0 len hl false h0, rfl⟩

/-- `Dice::new(n)` for `1 ≤ n ≤ 255` stores what a built-in constant `Dn` holds (`Dice.const n`: the inclusive range `1..=n` on
`u8`); `Dice::new(0)` is an error -/
theorem dice_is_range (n : Nat) (h1 : 1 ≤ n) (hn : n < 256) :
    Dice.new n = .ok (Dice.const n) ∧ Dice.new 0 = .error .EmptyRange := by
  refine ⟨(tryNew_unsigned IntTy.u8 rfl 1 n hn true h1).trans ?_, rfl⟩
  rw [Dice.const, if_pos rfl, show n - 1 + 1 = n by omega, Nat.mod_eq_of_lt (show n < IntTy.u8.M from hn)]

example : Valid IntTy.i8 ∧ tryNew IntTy.i8 (IntTy.i8.ofInt (-100)) (IntTy.i8.ofInt 100) true = .ok ⟨156, 201⟩ := by
  refine ⟨⟨by decide, by decide⟩, by rfl⟩
/-- a threshold word: range 201 over 32-bit words - the first word of offset 0's interval is accepted, its predecessor rejected -/
example : iteration IntTy.i8 ⟨156, 201⟩ 201 (lemireStart (2^32) 201 0) = .inl 156 ∧
    iteration IntTy.i8 ⟨156, 201⟩ 201 (lemireStart (2^32) 201 0 - 1) = .inr (2^32 % 201) := by decide

end Urandom.C04
