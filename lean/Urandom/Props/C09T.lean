import Urandom.Props.C09
import Urandom.Props.C01T
import Urandom.Props.C02S
/-!
# C09 for the constructors as translated from the source

`Props/C09.lean` proves that the model's `fromSeed` functions are injective and that different seeds give different streams.  Here injectivity
(and, for xoshiro256, a non-zero state), not the stream clause, is stated of the definitions `tools/extract_scalar.py` translates from the current source text of `from_seed` in `src/rng/{splitmix64,wyrand,
xoshiro256,chacha}.rs`: a constructor that re-draws, rejects, masks or special-cases a seed - for however few of the 2^64 seeds - fails
these statements (or fails to translate), and the check reports C09 even when no such seed is found by the search.
-/
namespace Urandom.C09
open Urandom.Generated

theorem splitmix_from_seed_translated_injective : Function.Injective Scalar.splitmix.from_seed := fun _ _ h => h
theorem wyrand_from_seed_translated_injective : Function.Injective Scalar.wyrand.from_seed := fun _ _ h => h

theorem words4_injective : Function.Injective C01.words4 := fun ⟨_, _, _, _⟩ ⟨_, _, _, _⟩ h => by cases h; rfl
theorem words12_injective : Function.Injective C02.words12 :=
  fun ⟨_, _, _, _, _, _, _, _, _, _, _, _⟩ ⟨_, _, _, _, _, _, _, _, _, _, _, _⟩ h => by cases h; rfl

/-- `Xoshiro256::from_seed` (= `urandom::seeded`) as translated is `words4 ∘ Xoshiro.fromSeed` (`C01.xoshiro_from_seed_translated`) -/
theorem xoshiro_from_seed_translated_injective : Function.Injective Scalar.xoshiro.from_seed :=
  words4_injective.comp xoshiro_fromSeed_injective

/-- and never yields the all-zero state -/
theorem xoshiro_from_seed_translated_ne_zero (seed : BitVec 64) : Scalar.xoshiro.from_seed seed ≠ (0#64, 0#64, 0#64, 0#64) :=
  fun h => xoshiro_fromSeed_ne_zero seed (words4_injective (a₂ := Xoshiro.zeroS) h)

/-- every ChaCha variant shares this `from_seed` -/
theorem chacha_from_seed_translated_injective : Function.Injective Scalar.chacha.from_seed :=
  words12_injective.comp chacha_fromSeed_injective

end Urandom.C09
