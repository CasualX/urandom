import Urandom.Model.UniformInt
import Urandom.Generated.ScalarDice
/-!
C04 for `Dice` as translated from the source: `tools/extract_scalar.py` checks the shape of src/distr/dice.rs - `Dice` wraps a `UniformInt<u8>`, `Dice::new(n)` is
`UniformInt::try_new_inclusive(<lo>, <hi>).unwrap()`, every constant is `UniformInt::constant(<base>, <range>)`, `sample` is
`self.0.sample(rand) as i32` - and extracts the arguments.  They are the model's: the inclusive range `1..=n`, and for the constant `Dk` the
stored pair (1, k), which is what `try_new_inclusive(1, k)` stores (`dice_translated`).
-/
namespace Urandom.C04
open Urandom.Generated

theorem dice_translated :
    (∀ n : BitVec 8, Dice.new n.toNat = UniformInt.tryNew IntTy.u8 (Scalar.dice.new_args n).1.toNat (Scalar.dice.new_args n).2.toNat true) ∧
    Scalar.dice.consts = [("D4", 1, 4), ("D6", 1, 6), ("D8", 1, 8), ("D10", 1, 10), ("D20", 1, 20)] ∧
    (∀ c ∈ Scalar.dice.consts, Dice.new c.2.2 = .ok (Dice.const c.2.2) ∧ Dice.const c.2.2 = ⟨c.2.1, c.2.2⟩) := by
  refine ⟨fun n => rfl, rfl, ?_⟩
  intro c hc
  simp only [Scalar.dice.consts, List.mem_cons, List.not_mem_nil, or_false] at hc
  rcases hc with rfl | rfl | rfl | rfl | rfl <;> exact ⟨rfl, rfl⟩

end Urandom.C04
