import Urandom.Model.System
/-
C17 - System entropy: full-state seeding, each word served once, failures never masked.

Model: `Urandom.SystemGen` (tied to `src/rng/system.rs`, `src/rng/entropy.rs` by the `system` and
`newgen` correspondence streams: the crate is built without its `getrandom` feature and linked
against a scripted entropy source with tagged words and failure injection).  The theorems use the
label instance `srcLabels`, where every buffer word carries its origin: `good k j` (word `j` of
successful fetch `k`), `bad k` (scribbled by the failed fetch `k`), `zero` (initial buffer).
The model is the repaired code (fix D6); `repaired_code_refetches` runs the history of D6 on it.
The model is proved equal to the translated source in `Props/C17T.lean` (word methods) and `Props/C17R.lean` (constructors, entropy layer).
Not stated: how many words each generator's `new()` asks for; `constructor_fills_whole_state` holds for any number, `Props/C17R.lean` shows one
request over `size_of` the state, and the sizes themselves are left to the `newgen` correspondence.
-/
namespace Urandom.C17
open Urandom.SystemGen

/-- `w` is a good word that comes before position `(K, J)` in fetch order -/
def Before (w : Src) (K J : Nat) : Prop := ∃ k j, w = .good k j ∧ (k < K ∨ (k = K ∧ j < J))

/-- strict fetch order on words -/
def SrcLt (a b : Src) : Prop := ∃ k j, b = .good k j ∧ Before a k j

theorem Before.mono {w : Src} {K J K' J' : Nat} (h : Before w K J) (hle : K < K' ∨ (K = K' ∧ J ≤ J')) : Before w K' J' := by
  obtain ⟨k, j, e, hk⟩ := h
  refine ⟨k, j, e, ?_⟩
  omega

/-- the words handed out so far by a history -/
def served : List (SystemGen.Out Src) → List Src
  | [] => []
  | .words l :: rest => l ++ served rest
  | _ :: rest => served rest

def outWords : SystemGen.Out Src → List Src
  | .words l => l
  | _ => []

theorem served_cons (o : SystemGen.Out Src) (rest : List (SystemGen.Out Src)) : served (o :: rest) = outWords o ++ served rest := by
  cases o <;> rfl

/-- invariant: the unread part of the buffer is the tail of one successful fetch, everything
served so far comes strictly before it (or before the next fetch) in fetch order -/
structure Inv (N : Nat) (s : St Src) (ws : List Src) : Prop where
  inBuf : s.index < N → ∃ kb, kb < s.fetches ∧ s.buf = (List.range N).map (Src.good kb) ∧ ∀ w ∈ ws, Before w kb s.index
  outBuf : N ≤ s.index → ∀ w ∈ ws, Before w s.fetches 0
  sorted : ws.Pairwise SrcLt

theorem pairwise_append_one {ws : List Src} {k j : Nat} (h : ws.Pairwise SrcLt) (hb : ∀ w ∈ ws, Before w k j) :
    (ws ++ [Src.good k j]).Pairwise SrcLt := by
  rw [List.pairwise_append]
  refine ⟨h, List.pairwise_singleton _ _, ?_⟩
  intro a ha b hb'
  simp only [List.mem_singleton] at hb'
  subst hb'
  exact ⟨k, j, rfl, hb a ha⟩

theorem drop_take_range (N kb i n : Nat) (h : i + n ≤ N) :
    (((List.range N).map (Src.good kb)).drop i).take n = (List.range n).map (fun t => Src.good kb (i + t)) := by
  apply List.ext_getElem
  · simp; omega
  · intro t h1 h2
    simp at h1 h2 ⊢

theorem init_inv (N : Nat) (hN : N < 2 ^ 32) (script : List Bool) : Inv N (St.new srcLabels N script) [] :=
  ⟨fun h => by simp [St.new] at h; omega, fun _ _ h => by simp at h, List.Pairwise.nil⟩

theorem fetchBlock_ok (N : Nat) (s : St Src) (hok : s.script.headD true = true) :
    fetchBlock srcLabels N s = (true, ⟨s.index, (List.range N).map (Src.good s.fetches), s.fetches + 1, s.script.tail⟩) := by
  unfold fetchBlock; rw [hok]; simp [srcLabels]

theorem fetchBlock_fail (N : Nat) (s : St Src) (hok : s.script.headD true = false) :
    fetchBlock srcLabels N s = (false, ⟨s.index, List.replicate N (Src.bad s.fetches), s.fetches + 1, s.script.tail⟩) := by
  unfold fetchBlock; rw [hok]; simp [srcLabels]

/-- whatever the buffer holds, everything served so far comes before the next fetch -/
theorem Inv.before_next {N : Nat} {s : St Src} {ws : List Src} (h : Inv N s ws) : ∀ w ∈ ws, Before w s.fetches 0 := by
  intro w hw
  by_cases hidx : s.index < N
  · obtain ⟨kb, hkb, _, hbef⟩ := h.inBuf hidx
    exact (hbef w hw).mono (.inl hkb)
  · exact h.outBuf (by omega) w hw

theorem discard_inv {N : Nat} {s : St Src} {ws : List Src} (h : Inv N s ws) (i : Nat) (hi : N ≤ i)
    (buf : List Src) (script : List Bool) (f : Nat) (hf : s.fetches ≤ f) : Inv N ⟨i, buf, f, script⟩ ws :=
  ⟨fun hlt => by simp at hlt; omega, fun _ w hw => (h.before_next w hw).mono (by simp; omega), h.sorted⟩

theorem serve_slice_inv {N kb i f : Nat} (n : Nat) {script : List Bool} {ws : List Src} (hkb : kb < f) (hs : ws.Pairwise SrcLt)
    (hbef : ∀ w ∈ ws, Before w kb i) :
    Inv N ⟨i + n, (List.range N).map (Src.good kb), f, script⟩ (ws ++ (List.range n).map fun t => Src.good kb (i + t)) := by
  have hmem : ∀ w ∈ ws ++ (List.range n).map (fun t => Src.good kb (i + t)), Before w kb (i + n) := by
    intro w hw
    rw [List.mem_append] at hw
    rcases hw with hw | hw
    · exact (hbef w hw).mono (by omega)
    · simp only [List.mem_map, List.mem_range] at hw
      obtain ⟨t, ht, rfl⟩ := hw
      exact ⟨kb, i + t, rfl, Or.inr ⟨rfl, by omega⟩⟩
  refine ⟨fun _ => ⟨kb, hkb, rfl, hmem⟩, fun _ w hw => (hmem w hw).mono (by simp only; omega), ?_⟩
  rw [List.pairwise_append]
  refine ⟨hs, ?_, ?_⟩
  · rw [List.pairwise_map]
    apply List.Pairwise.imp _ (List.pairwise_lt_range (n := n))
    intro a b hab
    exact ⟨kb, i + b, rfl, kb, i + a, rfl, Or.inr ⟨rfl, by omega⟩⟩
  · intro a ha b hb'
    simp only [List.mem_map, List.mem_range] at hb'
    obtain ⟨t, _, rfl⟩ := hb'
    exact ⟨kb, i + t, rfl, (hbef a ha).mono (by omega)⟩

theorem serve_inv {N : Nat} {s : St Src} {ws : List Src} (h : Inv N s ws) (n : Nat) (hn : s.index + n ≤ N) (hn0 : 0 < n) :
    Inv N ⟨s.index + n, s.buf, s.fetches, s.script⟩ (ws ++ (s.buf.drop s.index).take n) := by
  obtain ⟨kb, hkb, hbuf, hbef⟩ := h.inBuf (by omega)
  rw [hbuf, drop_take_range N kb s.index n hn]
  exact serve_slice_inv n hkb h.sorted hbef

/-- the refill of `next_u32` / `next_u64`: the index is invalidated, the block fetched, and if that succeeded its first `n` words served -/
theorem fetch_inv {N : Nat} (hN : N < 2 ^ 32) {s : St Src} {ws : List Src} (h : Inv N s ws) (n : Nat) (hn : n ≤ N) :
    (fetchBlock srcLabels N { s with index := 2 ^ 32 - 1 }).1 = true ∧
      Inv N { (fetchBlock srcLabels N { s with index := 2 ^ 32 - 1 }).2 with index := n }
        (ws ++ (fetchBlock srcLabels N { s with index := 2 ^ 32 - 1 }).2.buf.take n) ∨
    (fetchBlock srcLabels N { s with index := 2 ^ 32 - 1 }).1 = false ∧
      Inv N (fetchBlock srcLabels N { s with index := 2 ^ 32 - 1 }).2 ws := by
  have hb := h.before_next
  cases hsc : s.script.headD true with
  | true =>
    rw [fetchBlock_ok N { s with index := 2 ^ 32 - 1 } hsc]
    have := drop_take_range N s.fetches 0 n (by omega)
    simp only [List.drop_zero, Nat.zero_add] at this
    simpa [this] using serve_slice_inv (N := N) (i := 0) n (Nat.lt_succ_self _) h.sorted hb
  | false =>
    rw [fetchBlock_fail N { s with index := 2 ^ 32 - 1 } hsc]
    exact .inr ⟨rfl, discard_inv h _ (by simp; omega) _ _ _ (by simp)⟩

theorem step_inv {N : Nat} (hN : N < 2 ^ 32) {s : St Src} {ws : List Src} (h : Inv N s ws) (op : SystemGen.Op) :
    Inv N (step srcLabels N s op).2 (ws ++ outWords (step srcLabels N s op).1) := by
  have discard : ∀ (t : St Src), N ≤ t.index → s.fetches ≤ t.fetches → Inv N t (ws ++ []) := fun t h1 h2 => by
    simpa using discard_inv h t.index h1 t.buf t.script t.fetches h2
  cases op with
  | u32 =>
    simp only [step, nextU32]
    split
    · split
      · exact discard _ (by simp; omega) (Nat.le_refl _)
      · rcases fetch_inv hN h 1 (by omega) with ⟨e, hi⟩ | ⟨e, hi⟩ <;> simpa [e, outWords] using hi
    · exact serve_inv h 1 (by omega) (by omega)
  | u64 =>
    simp only [step, nextU64]
    split
    · simpa [outWords] using h
    · split
      · by_cases h2 : N < 2
        · -- `System<1>`: the fetch is made, then `self.random[1]` panics
          simp only [h2, if_true, ite_self]
          exact discard _ (by show N ≤ 2 ^ 32 - 1; omega) (Nat.le_succ _)
        · rcases fetch_inv hN h 2 (by omega) with ⟨e, hi⟩ | ⟨e, hi⟩ <;> simpa [e, h2, outWords] using hi
      · exact serve_inv h 2 (by omega) (by omega)
  | fill n =>
    simp only [step, SystemGen.fill]
    have bump : Inv N { s with fetches := s.fetches + 1, script := s.script.tail } (ws ++ []) := by
      rw [List.append_nil]
      exact ⟨fun hlt => (h.inBuf hlt).imp fun kb ⟨a, b, c⟩ => ⟨Nat.lt_succ_of_lt a, b, c⟩,
        fun hle w hw => (h.outBuf hle w hw).mono (.inl (Nat.lt_succ_self _)), h.sorted⟩
    split
    · simpa [outWords] using h
    · split <;> exact bump
  | jump => exact discard _ (by show N ≤ 2 ^ 32 - 1; omega) (Nat.le_refl _)

theorem served_append (a b : List (SystemGen.Out Src)) : served (a ++ b) = served a ++ served b := by
  induction a with
  | nil => rfl
  | cons o a ih => rw [List.cons_append, served_cons, served_cons, ih, List.append_assoc]

theorem run_inv {N : Nat} (hN : N < 2 ^ 32) (ops : List SystemGen.Op) : ∀ {s : St Src} {ws : List Src}, Inv N s ws →
    (ws ++ served (run srcLabels N s ops)).Pairwise SrcLt ∧
    ∀ w ∈ ws ++ served (run srcLabels N s ops), ∃ k j, w = Src.good k j := by
  induction ops with
  | nil =>
    intro s ws h
    simp only [run, served, List.append_nil]
    exact ⟨h.sorted, fun w hw => (h.before_next w hw).imp fun k ⟨j, e, _⟩ => ⟨j, e⟩⟩
  | cons op ops ih =>
    intro s ws h
    have := ih (step_inv hN h op)
    have e : ws ++ served (run srcLabels N s (op :: ops)) =
        ws ++ outWords (step srcLabels N s op).1 ++ served (run srcLabels N (step srcLabels N s op).2 ops) := by
      rw [run, served_cons, List.append_assoc]
    rw [e]; exact this

/-- C17: each fetched entropy word is returned at most once, in fetch order, and only words of successful fetches are ever returned - never
the initial zero buffer, never anything a failed fetch wrote - for every block size, every entropy script and every history with panics caught -/
theorem served_once_in_order (N : Nat) (hN : N < 2 ^ 32) (script : List Bool) (ops : List SystemGen.Op) :
    (served (run srcLabels N (St.new srcLabels N script) ops)).Pairwise SrcLt ∧
    ∀ w ∈ served (run srcLabels N (St.new srcLabels N script) ops), ∃ k j, w = Src.good k j := by
  have := run_inv hN ops (init_inv N hN script)
  simpa using this

/-- fetch order is irreflexive, so "sorted" means: no word twice -/
theorem srcLt_irrefl (a : Src) : ¬ SrcLt a a := by
  rintro ⟨k, j, e, k', j', e', h⟩
  rw [e] at e'
  injection e' with h1 h2
  omega

theorem served_nodup (N : Nat) (hN : N < 2 ^ 32) (script : List Bool) (ops : List SystemGen.Op) :
    (served (run srcLabels N (St.new srcLabels N script) ops)).Nodup := by
  have := (served_once_in_order N hN script ops).1
  exact this.imp (fun {a b} h e => by subst e; exact srcLt_irrefl a h)

/-- a failing fetch makes the operation panic and return nothing -/
theorem failed_fetch_panics (N : Nat) (h0 : 0 < N) (s : St Src) (hfail : s.script.headD true = false) :
    (s.index ≥ N → (step srcLabels N s .u32).1 = .panic) ∧
    (s.index ≥ N - 1 → (step srcLabels N s .u64).1 = .panic) ∧
    (∀ n, 0 < n → (step srcLabels N s (.fill n)).1 = .panic) := by
  have hN0 : N ≠ 0 := by omega
  have hf := fetchBlock_fail N { s with index := 2 ^ 32 - 1 } hfail
  refine ⟨?_, ?_, ?_⟩
  · intro hidx; simp only [step, nextU32, hidx, ↓reduceIte, hN0, hf, Bool.false_eq_true]
  · intro hidx; simp only [step, nextU64, hidx, ↓reduceIte, hN0, hf, Bool.false_eq_true, not_false_eq_true]
  · intro n hn
    have : n ≠ 0 := by omega
    simp only [step, SystemGen.fill, this, ↓reduceIte, hfail, Bool.false_eq_true]

/-- `fill_bytes` returns exactly the bytes of one fetch of that length, the one numbered by the fetch counter, which moves on -/
theorem fill_is_one_fresh_fetch (N : Nat) (s : St Src) (n : Nat) (hn : 0 < n) (hok : s.script.headD true = true) :
    step srcLabels N s (.fill n) = (.fetched s.fetches n, { s with fetches := s.fetches + 1, script := s.script.tail }) := by
  have : n ≠ 0 := by omega
  simp only [step, SystemGen.fill, this, ↓reduceIte, hok]

/-- the history of D6: with the fetch made before `index` is invalidated, `System<2>`: `next_u32` (ok), `next_u64` (fails, panics), `next_u32`
returns a word written by the failed fetch; with the repaired order the third call fetches afresh -/
theorem repaired_code_refetches :
    run srcLabels 2 (St.new srcLabels 2 [true, false, true]) [.u32, .u64, .u32] =
      [.words [.good 0 0], .panic, .words [.good 2 0]] := by
  rfl

/-- C17: `X::new()` fills the generator's entire state from one fetch: every state word comes from its own entropy word, none is a constant,
a copy or derived from another; when the fetch fails the constructor panics and no generator exists.  (`words` = 8 for Xoshiro256: all 256
bits; 12 for ChaCha: key, counter and stream; 2 for the 64-bit generators.) -/
theorem constructor_fills_whole_state (words : Nat) (script : List Bool) :
    (script.headD true = true →
      ∃ ws, SystemGen.newState srcLabels words script = some ws ∧ ws.length = words ∧
        (∀ j, j < words → ws[j]? = some (Src.good 0 j)) ∧ ws.Nodup) ∧
    (script.headD true = false → SystemGen.newState srcLabels words script = none) := by
  constructor
  · intro h
    refine ⟨(List.range words).map (Src.good 0), ?_, by simp, ?_, ?_⟩
    · unfold SystemGen.newState
      rw [if_pos h]
      rfl
    · intro j hj
      simp [hj]
    · unfold List.Nodup
      rw [List.pairwise_map]
      refine List.Pairwise.imp ?_ (List.nodup_range (n := words))
      intro a b hne hab
      cases hab
      exact hne rfl
  · intro h
    unfold SystemGen.newState
    rw [if_neg (by rw [h]; decide)]

example : SystemGen.newState natLabels 2 [] = some [65536, 65537] := by decide

end Urandom.C17
