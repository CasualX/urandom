import Urandom.Props.C02
import Urandom.Generated.ScalarChaCha
/-
C02 (third module) - `ChaChaState` as translated from the source: the methods of the state struct of `src/rng/chacha.rs` (`new`, `get_state`,
`get_counter`, `set_counter`, `add_counter`, `get_stream`, `set_stream`, `BlockRng::jump`) and `ChaCha::from_seed`, regenerated into
`Urandom.Generated.Scalar.chacha` on every run by `tools/extract_scalar.py` (an object is its twelve 32-bit words: key, counter low/high,
stream id low/high).  The model's `ChaCha.State` operations, which C02, C03, C08 and C09 build on, are proved to be these translations.
-/
namespace Urandom.C02
open Urandom.ChaCha Urandom.Generated

/-- the twelve words of a model state, as the translation passes them -/
def words12 (s : State) : W32 × W32 × W32 × W32 × W32 × W32 × W32 × W32 × W32 × W32 × W32 × W32 :=
  (s.k0, s.k1, s.k2, s.k3, s.k4, s.k5, s.k6, s.k7, s.c0, s.c1, s.s0, s.s1)

theorem state_new_translated (k0 k1 k2 k3 k4 k5 k6 k7 : W32) (counter stream : BitVec 64) :
    Scalar.chacha.new k0 k1 k2 k3 k4 k5 k6 k7 counter stream = words12 (State.new k0 k1 k2 k3 k4 k5 k6 k7 counter stream) := rfl

theorem get_counter_translated (s : State) :
    Scalar.chacha.get_counter s.k0 s.k1 s.k2 s.k3 s.k4 s.k5 s.k6 s.k7 s.c0 s.c1 s.s0 s.s1 = s.getCounter := rfl

theorem set_counter_translated (s : State) (c : BitVec 64) :
    Scalar.chacha.set_counter s.k0 s.k1 s.k2 s.k3 s.k4 s.k5 s.k6 s.k7 s.c0 s.c1 s.s0 s.s1 c = words12 (s.setCounter c) := rfl

/-- the 64-bit counter plus `k` modulo 2^64, written back as two 32-bit words, the carry between them included -/
theorem add_counter_translated (s : State) (k : BitVec 64) :
    Scalar.chacha.add_counter s.k0 s.k1 s.k2 s.k3 s.k4 s.k5 s.k6 s.k7 s.c0 s.c1 s.s0 s.s1 k = words12 (s.addCounter k) := rfl

theorem get_stream_translated (s : State) :
    Scalar.chacha.get_stream s.k0 s.k1 s.k2 s.k3 s.k4 s.k5 s.k6 s.k7 s.c0 s.c1 s.s0 s.s1 = s.getStream := rfl

theorem set_stream_translated (s : State) (c : BitVec 64) :
    Scalar.chacha.set_stream s.k0 s.k1 s.k2 s.k3 s.k4 s.k5 s.k6 s.k7 s.c0 s.c1 s.s0 s.s1 c = words12 (s.setStream c) := rfl

/-- `jump` moves to the next 64-bit stream id (carry from the low into the high word included) and touches nothing else -/
theorem state_jump_translated (s : State) :
    Scalar.chacha.jump s.k0 s.k1 s.k2 s.k3 s.k4 s.k5 s.k6 s.k7 s.c0 s.c1 s.s0 s.s1 = words12 s.jump := rfl

/-- the initial matrix: the four constants, the eight key words, counter low / high, stream id low / high -/
theorem get_state_translated (s : State) :
    Scalar.chacha.get_state s.k0 s.k1 s.k2 s.k3 s.k4 s.k5 s.k6 s.k7 s.c0 s.c1 s.s0 s.s1 =
      (s.getState.x0, s.getState.x1, s.getState.x2, s.getState.x3, s.getState.x4, s.getState.x5, s.getState.x6, s.getState.x7,
       s.getState.x8, s.getState.x9, s.getState.x10, s.getState.x11, s.getState.x12, s.getState.x13, s.getState.x14, s.getState.x15) := rfl

/-- `ChaCha::from_seed`: key = the two 32-bit halves of the seed repeated four times, counter 1, stream id 0, for every variant -/
theorem chacha_from_seed_translated (seed : BitVec 64) :
    Scalar.chacha.from_seed seed = words12 (fromSeed seed) := rfl

end Urandom.C02
