import Urandom.Lemmas.Index
import Urandom.Generated.EffectShuffle
import Urandom.Lemmas.BitVecNat
/-!
C05 for `Random::shuffle` / `partial_shuffle` / `index` as translated from the source.  `tools/extract_effect.py` translates their current
text (src/random.rs) into functions of the slice length (a 64-bit `usize`) and an abstract generator; they return the log of
`slice.swap(a, b)` calls, the generator afterwards and whether a `while` ran out of fuel (2^64 rounds).  Whenever the model (`Seq.shuffle`,
`Seq.partialShuffle`) succeeds on fewer than 2^64 elements, the translated function, given the model's draw as its generator, does not
diverge, its swaps applied to the array give the model's result, and it leaves the model's words: a draw from the wrong range
(`len as u32`, `len - 1`), a swap with the wrong partner, a loop that stops early or late breaks it, for lengths of 2^32 and more too
(`shuffle_translated`, `partial_shuffle_translated`; `index` itself: `index_translated`).
-/
namespace Urandom.C05
open Urandom.Seq Urandom.Generated

/-- `Random::index(len)` is `UniformInt::constant(0, len).sample(self)`: the stored pair is (0, len) itself, so the model's `index n` is the
usize sampler (`Props/C04T.lean`) on exactly the fields the code passes -/
theorem index_translated (n : Nat) (hn : n < 2 ^ 64) :
    index n = UniformInt.sample IntTy.usize
      ⟨(Effect.random.index_args (BitVec.ofNat 64 n)).1.toNat, (Effect.random.index_args (BitVec.ofNat 64 n)).2.toNat⟩ := by
  simp only [Effect.random.index_args, toNat_ofNat_lt hn]
  rfl

/-- the model's `index` as a total generator function over the mock words (a panic of the model leaves the words; not reached below) -/
def idxT (ws : Words) (n : BitVec 64) : BitVec 64 × Words :=
  match index n.toNat ws with
  | some (k, ws') => (BitVec.ofNat 64 k, ws')
  | none => (0#64, ws)

theorem idxT_of {n k : Nat} {ws ws' : Words} (hn : n < 2 ^ 64) (h : index n ws = some (k, ws')) :
    idxT ws (BitVec.ofNat 64 n) = (BitVec.ofNat 64 k, ws') := by
  rw [idxT, toNat_ofNat_lt hn, h]

/-- apply a log of swaps (`slice.swap` panics out of bounds) -/
def applySwaps : Array Nat → List (BitVec 64 × BitVec 64) → Option (Array Nat)
  | a, [] => some a
  | a, (i, j) :: rest => match swap? a i.toNat j.toNat with
    | some a' => applySwaps a' rest
    | none => none

theorem applySwaps_append (a : Array Nat) (l1 l2 : List (BitVec 64 × BitVec 64)) :
    applySwaps a (l1 ++ l2) = (applySwaps a l1).bind (fun a' => applySwaps a' l2) := by
  induction l1 generalizing a with
  | nil => simp [applySwaps]
  | cons p l1 ih =>
    obtain ⟨i, j⟩ := p
    simp only [List.cons_append, applySwaps]
    cases swap? a i.toNat j.toNat with
    | none => simp
    | some a' => simp [ih]

theorem while1_shuffle : ∀ (len : Nat) (a : Array Nat) (ws : Words) (fuel : Nat) (a' : Array Nat) (ws' : Words)
    (log : List (BitVec 64 × BitVec 64)) (d : Bool),
    len < fuel → a.size < 2 ^ 64 → shuffleLoop len a ws = some (a', ws') →
    ∃ sw, Effect.random.shuffle_while1 idxT fuel (BitVec.ofNat 64 len, ws, log, d) = (BitVec.ofNat 64 (min len 1), ws', log ++ sw, d) ∧
      applySwaps a sw = some a' := by
  intro len a ws
  -- along the model's recursion: where it fails (`case1`, `case2`) there is nothing to show; a round (`case3`) is one trip of the
  -- translated loop, which logs the swap `(k, len + 1)`; at `len ≤ 1` (`case4`) both stop
  induction len, a, ws using shuffleLoop.induct with
  | case1 len a ws hk => intro _ _ _ _ _ _ _ h; simp [shuffleLoop, hk] at h
  | case2 len a ws k ws1 hk hs => intro _ _ _ _ _ _ _ h; simp [shuffleLoop, hk, hs] at h
  | case3 len a ws k ws1 hk a1 hsw ih =>
    intro fuel a' ws' log d hf hsz hm
    obtain ⟨f, rfl⟩ : ∃ f, fuel = f + 1 := ⟨fuel - 1, by omega⟩
    simp only [shuffleLoop, hk, hsw] at hm
    obtain ⟨e, hk', hl1⟩ := swap?_some hsw
    have hsz1 : a1.size = a.size := by rw [e, Array.size_swapIfInBounds]
    have hsub : BitVec.ofNat 64 (len + 2) - 1#64 = BitVec.ofNat 64 (len + 1) :=
      BitVec.ofNat_sub_ofNat_of_le (len + 2) 1 (by decide) (by omega)
    obtain ⟨sw, h1, h2⟩ := ih f a' ws' (log ++ [(BitVec.ofNat 64 k, BitVec.ofNat 64 (len + 1))]) d
      (by omega) (by omega) hm
    refine ⟨(BitVec.ofNat 64 k, BitVec.ofNat 64 (len + 1)) :: sw, ?_, ?_⟩
    · rw [Effect.random.shuffle_while1]
      simp only [(ofNat_gt_one (by omega)).2 (by omega : 1 < len + 2), if_true, idxT_of (by omega) hk, hsub, h1,
        List.append_assoc, List.singleton_append]
      rw [show min (len + 1) 1 = min (len + 2) 1 by omega]
    · simp only [applySwaps, toNat_ofNat_lt (show k < 2 ^ 64 by omega), toNat_ofNat_lt (show len + 1 < 2 ^ 64 by omega), hsw, h2]
  | case4 len a ws hne =>
    intro fuel a' ws' log d hf hsz hm
    obtain ⟨f, rfl⟩ : ∃ f, fuel = f + 1 := ⟨fuel - 1, by omega⟩
    rw [shuffleLoop.eq_2 _ _ _ hne] at hm
    obtain ⟨rfl, rfl⟩ := Prod.mk.inj (Option.some.inj hm)
    have hl : ¬ 1 < len := fun h => hne (len - 2) (by omega)
    refine ⟨[], ?_, rfl⟩
    rw [Effect.random.shuffle_while1]
    simp only [mt (ofNat_gt_one (by omega)).1 hl, if_false, List.append_nil, show min len 1 = len by omega]

theorem shuffle_translated (a a' : Array Nat) (ws ws' : Words) (hsz : a.size < 2 ^ 64) (hm : Seq.shuffle a ws = some (a', ws')) :
    (Effect.random.shuffle idxT ws (BitVec.ofNat 64 a.size)).2.2 = false ∧
    applySwaps a (Effect.random.shuffle idxT ws (BitVec.ofNat 64 a.size)).1 = some a' ∧
    (Effect.random.shuffle idxT ws (BitVec.ofNat 64 a.size)).2.1 = ws' := by
  obtain ⟨sw, h1, h2⟩ := while1_shuffle a.size a ws (2 ^ 64) a' ws' [] false hsz hsz hm
  unfold Effect.random.shuffle
  simp only [h1, List.nil_append]
  exact ⟨trivial, h2, trivial⟩

/-- the model's `range(lo..hi)` on usize as a total generator function -/
def rngT (ws : Words) (lo hi : BitVec 64) : BitVec 64 × Words :=
  match rangeUsize lo.toNat hi.toNat ws with
  | some (k, ws') => (BitVec.ofNat 64 k, ws')
  | none => (0#64, ws)

theorem rngT_of {lo hi k : Nat} {ws ws' : Words} (hlo : lo < 2 ^ 64) (hhi : hi < 2 ^ 64) (h : rangeUsize lo hi ws = some (k, ws')) :
    rngT ws (BitVec.ofNat 64 lo) (BitVec.ofNat 64 hi) = (BitVec.ofNat 64 k, ws') := by
  rw [rngT, toNat_ofNat_lt hlo, toNat_ofNat_lt hhi, h]

theorem for1_pshuf : ∀ (cnt i : Nat) (a : Array Nat) (ws : Words) (a' : Array Nat) (ws' : Words) (log : List (BitVec 64 × BitVec 64)) (S : Nat),
    S = a.size → S < 2 ^ 64 → pshufLoop cnt i a ws = some (a', ws') →
    ∃ sw, (List.range' i cnt).foldl (Effect.random.partial_shuffle_for1 rngT (BitVec.ofNat 64 S)) (ws, log) = (ws', log ++ sw) ∧
      applySwaps a sw = some a' := by
  intro cnt i a ws
  -- along the model's recursion: with no round left (`case1`) both stop; where it fails (`case2`, `case3`) there is nothing to show; a
  -- round (`case4`) is one step of the translated `for`, which logs the swap `(i, k)`
  induction cnt, i, a, ws using pshufLoop.induct with
  | case1 i a ws =>
    intro a' ws' log S _ _ hm
    obtain ⟨rfl, rfl⟩ := Prod.mk.inj (Option.some.inj hm)
    exact ⟨[], by simp, rfl⟩
  | case2 cnt i a ws hr => intro _ _ _ _ _ _ h; simp [pshufLoop, hr] at h
  | case3 cnt i a ws k ws1 hr hs => intro _ _ _ _ _ _ h; simp [pshufLoop, hr, hs] at h
  | case4 cnt i a ws k ws1 hr a1 hsw ih =>
    intro a' ws' log S hS hlt hm
    subst hS
    simp only [pshufLoop, hr, hsw] at hm
    obtain ⟨e, hi, hk⟩ := swap?_some hsw
    have hsz1 : a1.size = a.size := by rw [e, Array.size_swapIfInBounds]
    obtain ⟨sw, h1, h2⟩ := ih a' ws' (log ++ [(BitVec.ofNat 64 i, BitVec.ofNat 64 k)]) a.size hsz1.symm hlt hm
    refine ⟨(BitVec.ofNat 64 i, BitVec.ofNat 64 k) :: sw, ?_, ?_⟩
    · rw [List.range'_succ, List.foldl_cons, Effect.random.partial_shuffle_for1]
      simp only [rngT_of (show i < 2 ^ 64 by omega) hlt hr, h1, List.append_assoc, List.singleton_append]
    · simp only [applySwaps, toNat_ofNat_lt (show i < 2 ^ 64 by omega), toNat_ofNat_lt (show k < 2 ^ 64 by omega), hsw, h2]

theorem partial_shuffle_translated (a a' : Array Nat) (n : Nat) (ws ws' : Words) (hsz : a.size < 2 ^ 64) (hn : n < 2 ^ 64)
    (hm : Seq.partialShuffle a n ws = some (a', ws')) :
    applySwaps a (Effect.random.partial_shuffle rngT ws (BitVec.ofNat 64 a.size) (BitVec.ofNat 64 n)).1 = some a' ∧
    (Effect.random.partial_shuffle rngT ws (BitVec.ofNat 64 a.size) (BitVec.ofNat 64 n)).2 = ws' := by
  unfold Seq.partialShuffle at hm
  unfold Effect.random.partial_shuffle
  by_cases h1 : a.size > 1
  · have hsub : BitVec.ofNat 64 a.size - 1#64 = BitVec.ofNat 64 (a.size - 1) :=
      BitVec.ofNat_sub_ofNat_of_le _ 1 (by decide) (by omega)
    have hmin : (if BitVec.ofNat 64 n ≤ BitVec.ofNat 64 (a.size - 1) then BitVec.ofNat 64 n else BitVec.ofNat 64 (a.size - 1)).toNat
        = min n (a.size - 1) := by
      simp only [apply_ite BitVec.toNat, BitVec.le_def, toNat_ofNat_lt hn, toNat_ofNat_lt (show a.size - 1 < 2 ^ 64 by omega),
        Nat.min_def]
    simp only [h1, if_true] at hm
    obtain ⟨sw, hf, ha⟩ := for1_pshuf (min n (a.size - 1)) 0 a ws a' ws' [] a.size rfl hsz hm
    simp only [(ofNat_gt_one hsz).2 h1, if_true, hsub, hmin, hf, List.nil_append]
    exact ⟨ha, trivial⟩
  · simp only [h1, if_false, Option.some.injEq, Prod.mk.injEq] at hm
    obtain ⟨rfl, rfl⟩ := hm
    simp only [mt (ofNat_gt_one hsz).1 h1, if_false]
    exact ⟨rfl, trivial⟩

/-- the premise is satisfiable: the model shuffles a three-element array with two words -/
example : (Seq.shuffle #[10, 20, 30] [5#64, 0xffffffffffffffff#64]).isSome = true := by decide +kernel
example : (Seq.partialShuffle #[10, 20, 30, 40] 2 [5#64, 0xffffffffffffffff#64]).isSome = true := by decide +kernel
end Urandom.C05
