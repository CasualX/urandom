import Urandom.Lemmas.IEEEOrder
import Urandom.Lemmas.IEEEExact
import Urandom.Model.FloatDistr
/-
C15 - Exp / Normal / LogNormal: total parameter validation, always-valid samples.

Model: `Urandom.FD.Exp`, `Normal`, `LogNormal` (`src/distr/exp.rs`, `src/distr/normal.rs`), after the
repairs D3 (Exp stores `1/|λ|`), D4 (the `cv == 0` shortcut validates the mean), D5 (the derived
standard deviation must be finite); tied to the code by the `expd` / `norm` / `lnorm` / `zig`
correspondence streams, both float widths.  `ln` / `exp` are parameters (`Libm`).
The constructors are total functions into `Except` (no `unwrap` on the `try_` paths): they cannot
panic in the model, and the correspondence compares "panic" outcomes with the implementation.
Proved equal to translated source in `Props/C15T.lean`.
Stated: which parameters each constructor accepts and what it stores or returns; that samples are the documented
transform of the standard sample of the same stream; NaN-freedom and sign of samples, as bit patterns, under hypotheses
on the standard samples and on libm.  Not stated: that the standard samples meet those hypotheses; any law of the samples.
-/
namespace Urandom.C15
open Urandom.IEEE Urandom.FD

theorem decode_zero (f : Fmt) (hf : f.WF) : decode f (c f 0) = .fin false 0 f.emin :=
  decode_encode f hf (.fin false 0 0) false

theorem decode_zero64 : decode b64 (c b64 0) = .fin false 0 b64.emin := decode_zero b64 b64_wf
theorem decode_zero32 : decode b32 (c b32 0) = .fin false 0 b32.emin := decode_zero b32 b32_wf

/-- `x >= 0.0` (IEEE) in terms of the decoded value: not NaN, and `+inf` or a finite value `≥ 0`
(both zeros included) -/
theorem ge_zero_iff (v : Val) (e0 : ℤ) :
    Val.le (.fin false 0 e0) v = true ↔ v = .inf false ∨ ∃ s m e, v = .fin s m e ∧ 0 ≤ rval s m e := by
  cases v with
  | nan => simp [Val.le, Val.lt, Val.eq]
  | inf s => cases s <;> simp [Val.le, Val.lt, Val.eq]
  | fin s m e =>
    rw [le_fin_iff, rval_zero]
    constructor
    · intro h; exact Or.inr ⟨s, m, e, rfl, h⟩
    · rintro (h | ⟨s', m', e', h, h2⟩)
      · cases h
      · cases h; exact h2

/-- `Exp::try_new` accepts exactly `lambda >= 0.0` (IEEE: `+0`, `-0`, positive, `+inf`; not NaN, not negative) -/
theorem exp_tryNew_ok_iff (f : Fmt) (lambda : Nat) :
    (∃ li, Exp.tryNew f lambda = .ok li) ↔ ge f lambda (c f 0) = true := by
  unfold Exp.tryNew
  by_cases h : ge f lambda (c f 0) = true <;> simp [h]

theorem exp_tryNew_error (f : Fmt) (lambda : Nat) (h : ¬ ge f lambda (c f 0) = true) :
    Exp.tryNew f lambda = .error .LambdaTooSmall := by
  simp [Exp.tryNew, h]

/-- fix D3: a zero rate of either sign stores `1/|λ| = +inf` (not `-inf`), in both widths -/
theorem exp_zero_rate :
    Exp.tryNew b64 0 = .ok 0x7FF0000000000000 ∧ Exp.tryNew b64 0x8000000000000000 = .ok 0x7FF0000000000000 ∧
    Exp.tryNew b32 0 = .ok 0x7F800000 ∧ Exp.tryNew b32 0x80000000 = .ok 0x7F800000 := by
  decide +kernel

/-- the sign of the stored `1/|λ|` is that of a quotient of two non-negative values (`Val` level) -/
theorem divV_nonneg_sign (f : Fmt) (m : ℕ) (e : ℤ) (v : Val) (hv : v.sign = false) (hn : v.isNaN = false) :
    ((divV f (.fin false m e) v).1).sign = false ∨ ((divV f (.fin false m e) v).1).isNaN = true := by
  cases h : (divV f (.fin false m e) v).1.isNaN
  · left; rw [divV_sign f _ _ h, hv]; rfl
  · right; rfl

/-- `Normal::try_new` and `try_from_mean_cv` with the acceptance condition stated positively -/
theorem normal_tryNew_eq (f : Fmt) (mean sd : Nat) :
    Normal.tryNew f mean sd = if isFinite f sd = true then .ok ⟨mean, sd⟩ else .error .BadVariance := by
  rw [Normal.tryNew, ite_not]

theorem normal_tryFromMeanCv_eq (f : Fmt) (mean cv : Nat) :
    Normal.tryFromMeanCv f mean cv =
      if isFinite f cv = true ∧ lt f cv (c f 0) = false ∧ isFinite f (mul f cv mean) = true then .ok ⟨mean, mul f cv mean⟩
      else .error .BadVariance := by
  unfold Normal.tryFromMeanCv
  by_cases h1 : isFinite f cv = true <;> by_cases h2 : lt f cv (c f 0) = true <;>
    by_cases h3 : isFinite f (mul f cv mean) = true <;> simp [h1, h2, h3]

theorem normal_tryNew_ok_iff (f : Fmt) (mean sd : Nat) :
    (∃ d, Normal.tryNew f mean sd = .ok d) ↔ isFinite f sd = true := by
  rw [normal_tryNew_eq]; split <;> simp [*]

theorem normal_tryNew_error (f : Fmt) (mean sd : Nat) (h : ¬ isFinite f sd = true) :
    Normal.tryNew f mean sd = .error .BadVariance := by rw [normal_tryNew_eq, if_neg h]

/-- fix D5: the derived standard deviation `cv·mean` must be finite too -/
theorem normal_fromMeanCv_ok_iff (f : Fmt) (mean cv : Nat) :
    (∃ d, Normal.tryFromMeanCv f mean cv = .ok d) ↔
      (isFinite f cv = true ∧ lt f cv (c f 0) = false ∧ isFinite f (mul f cv mean) = true) := by
  rw [normal_tryFromMeanCv_eq]; split <;> simp [*]

theorem normal_fromMeanCv_error_kind (f : Fmt) (mean cv : Nat) (e : NormalError)
    (h : Normal.tryFromMeanCv f mean cv = .error e) : e = .BadVariance := by
  rw [normal_tryFromMeanCv_eq] at h
  split at h
  · cases h
  · exact (Except.error.inj h).symm

theorem normal_accepted_sd_finite (f : Fmt) (a b : Nat) (d : Normal)
    (h : Normal.tryNew f a b = .ok d ∨ Normal.tryFromMeanCv f a b = .ok d) : isFinite f d.stdDev = true := by
  rw [normal_tryNew_eq, normal_tryFromMeanCv_eq] at h
  rcases h with h | h <;> split at h <;> cases h
  · assumption
  · exact ‹_ ∧ _ ∧ _›.2.2

/-- `Normal::sample` is `from_zscore` (one fused rounding) of the standard-normal sample of the same stream, narrowed to the format -/
theorem normal_sample_is_zscore (m : Libm) (t : ZigTables) (f : Fmt) (d : Normal) (ws : Words) :
    Normal.sample m t f d ws = (stdNormal m t ws).map fun (z, ws') => (d.fromZscore f (narrow f z), ws') := rfl

theorem lognormal_tryNew_ok_iff (f : Fmt) (mu sigma : Nat) :
    (∃ d, LogNormal.tryNew f mu sigma = .ok d) ↔ isFinite f sigma = true := normal_tryNew_ok_iff f mu sigma

/-- `LogNormal::try_from_mean_cv`, the `cv == 0` case (fix D4): `MeanTooSmall` unless `mean >= 0`; for `mean >= 0` (this includes
the documented `(0, 0)` case) the result is `Normal::try_new(ln(mean), 0.0)`. The existential and the left disjunct of the
first conjunct carry no information: acceptance is not stated here (it needs the literal zero to be finite: `zero_finite`). -/
theorem lognormal_cv_zero (m : Libm) (f : Fmt) (mean cv : Nat) (hcv : eq f cv (c f 0) = true) :
    (ge f mean (c f 0) = true → ∃ d, LogNormal.tryFromMeanCv m f mean cv = .ok d ∨
        LogNormal.tryFromMeanCv m f mean cv = Normal.tryNew f (m.ln f mean) (c f 0)) ∧
    (¬ ge f mean (c f 0) = true → LogNormal.tryFromMeanCv m f mean cv = .error .MeanTooSmall) := by
  unfold LogNormal.tryFromMeanCv
  simp only [hcv]
  constructor
  · intro h; simp only [h, not_true_eq_false, ↓reduceIte]; exact ⟨⟨0, 0⟩, Or.inr trivial⟩
  · intro h; simp [h]

/-- what `lognormal_cv_zero` needs for acceptance, in both widths -/
theorem zero_finite : isFinite b64 (c b64 0) = true ∧ isFinite b32 (c b32 0) = true := by
  simp only [isFinite, decode_zero64, decode_zero32]; exact ⟨rfl, rfl⟩

/-- the `cv ≠ 0` case: `MeanTooSmall` unless `mean > 0`, then `BadVariance` unless `cv >= 0`;
otherwise the result is `Normal::try_new(mu, sigma)` of the derived parameters (so `BadVariance` iff
the derived `sigma` is not finite) -/
theorem lognormal_cv_nonzero (m : Libm) (f : Fmt) (mean cv : Nat) (hcv : eq f cv (c f 0) = false) :
    (¬ gt f mean (c f 0) = true → LogNormal.tryFromMeanCv m f mean cv = .error .MeanTooSmall) ∧
    (gt f mean (c f 0) = true → ¬ ge f cv (c f 0) = true → LogNormal.tryFromMeanCv m f mean cv = .error .BadVariance) ∧
    (gt f mean (c f 0) = true → ge f cv (c f 0) = true →
      LogNormal.tryFromMeanCv m f mean cv =
        Normal.tryNew f (mul f (half f) (m.ln f (div f (mul f mean mean) (add f (c f 1) (mul f cv cv)))))
          (sqrt f (m.ln f (add f (c f 1) (mul f cv cv))))) := by
  unfold LogNormal.tryFromMeanCv
  simp only [hcv]
  refine ⟨?_, ?_, ?_⟩
  · intro h; simp [h]
  · intro h1 h2; simp [h1, h2]
  · intro h1 h2; simp [h1, h2]

theorem lognormal_sample_is_exp_zscore (m : Libm) (t : ZigTables) (f : Fmt) (d : Normal) (ws : Words) :
    LogNormal.sample m t f d ws =
      (stdNormal m t ws).map fun (z, ws') => (m.exp f (d.fromZscore f (narrow f z)), ws') := by
  unfold LogNormal.sample Normal.sample
  cases stdNormal m t ws with
  | none => rfl
  | some r => rfl

/-! NaN-freedom on the level of exact values: a product, sum or fused multiply-add is NaN only from the
listed operand combinations; `round` keeps NaN-ness and sign (`IEEE.round_isNaN`, `IEEE.round_sign`).
The four facts about the exact operations belong with `divV_isNaN_iff` / `divV_sign` in `Lemmas/IEEEExact.lean`; they
stay here because the property's axiom audit covers the theorems of this module. -/

theorem mulE_isNaN_iff (a b : Val) :
    (a.mulE b).isNaN = true ↔ a.isNaN = true ∨ b.isNaN = true ∨ (a.isInf = true ∧ b.isZero = true) ∨ (a.isZero = true ∧ b.isInf = true) := by
  rcases a with _ | s | ⟨s, _ | m, e⟩ <;> rcases b with _ | t | ⟨t, _ | n, g⟩ <;>
    simp [Val.mulE, Val.isNaN, Val.isInf, Val.isZero]

theorem addFin_not_nan (s : Bool) (m : ℕ) (e : ℤ) (t : Bool) (n : ℕ) (g : ℤ) : (Val.addFin s m e t n g).isNaN = false :=
  (apply_ite Val.isNaN _ _ _).trans (ite_self _)

theorem addE_isNaN_iff (a b : Val) :
    (a.addE b).isNaN = true ↔ a.isNaN = true ∨ b.isNaN = true ∨ (a.isInf = true ∧ b.isInf = true ∧ a.sign ≠ b.sign) := by
  rcases a with _ | s | ⟨s, m, e⟩ <;> rcases b with _ | t | ⟨t, n, g⟩
  · simp [Val.addE, Val.isNaN]
  · simp [Val.addE, Val.isNaN]
  · simp [Val.addE, Val.isNaN]
  · simp [Val.addE, Val.isNaN]
  · simp only [Val.addE, Val.isNaN, Val.isInf, Val.sign]
    by_cases h : s = t <;> simp [h]
  · simp [Val.addE, Val.isNaN, Val.isInf]
  · simp [Val.addE, Val.isNaN]
  · simp [Val.addE, Val.isNaN, Val.isInf]
  · simp only [Val.addE, addFin_not_nan]
    simp [Val.isNaN, Val.isInf]

/-- used for: a non-negative variate times a non-negative `1/|λ|` is not negative -/
theorem mulE_sign (a b : Val) (h : (a.mulE b).isNaN = false) : (a.mulE b).sign = (a.sign != b.sign) := by
  rcases a with _ | s | ⟨s, _ | m, e⟩ <;> rcases b with _ | t | ⟨t, _ | n, g⟩ <;>
    simp_all [Val.mulE, Val.isNaN, Val.sign]

/-! Bit-level sample validity: `decode ∘ encode = round` (`Lemmas/IEEERoundTrip`) turns the statements above
into statements about the bit patterns the model (and, by the correspondence, the implementation) returns.
Hypotheses, checked by the oracle of the correspondence on every sample and not proved, are what depends on
libm and on the ziggurat's numeric range: that the standard samples are finite (the unit exponential
positive), and that `exp` maps non-NaN to non-NaN, non-negative results. -/

theorem decode_one : (decode b64 (c b64 1) = .fin false (2 ^ 52) (-52)) ∧ (decode b32 (c b32 1) = .fin false (2 ^ 23) (-23)) := by
  decide +kernel

/-- C15, sample validity: the `1/|λ|` that an accepted `Exp` stores is neither NaN nor negative, as a bit pattern.
`h1` / `hm1` say that the literal `1.0` decodes to a non-zero finite value: `decode_one` for the two widths. -/
theorem exp_lambdaInv_valid (f : Fmt) (hf : f.WF) (m1 : ℕ) (e1 : ℤ) (h1 : decode f (c f 1) = .fin false m1 e1) (hm1 : m1 ≠ 0)
    (lambda li : ℕ) (h : Exp.tryNew f lambda = .ok li) :
    (decode f li).isNaN = false ∧ (decode f li).sign = false := by
  unfold Exp.tryNew at h
  split at h
  · cases h
  · rename_i hge
    cases h
    -- the accepted rate is not NaN; `1` is finite and not zero: the quotient `1 / |λ|` is not NaN
    have hn : (decode f lambda).isNaN = false := (Val.le_not_nan (not_not.1 hge)).2
    have hq : (divV f (.fin false m1 e1) (decode f lambda).abs).1.isNaN = false := by
      rw [Bool.eq_false_iff, Ne, divV_isNaN_iff, Val.abs_isNaN, hn]
      cases m1 <;> simp_all [Val.isNaN, Val.isInf, Val.isZero]
    rw [decode_div f hf, round_isNaN, round_sign, h1, decode_abs]
    exact ⟨hq, by rw [divV_sign f _ _ hq, Val.abs_sign]; rfl⟩

/-- `hx`: the unit exponential variate is finite and positive (`0 < x < 54`: the ziggurat's range, which depends on
libm's `ln`) -/
theorem exp_sample_valid_bits (f : Fmt) (hf : f.WF) (x li : ℕ)
    (hx : ∃ m e, decode f x = .fin false m e ∧ m ≠ 0)
    (hli : (decode f li).isNaN = false ∧ (decode f li).sign = false) :
    isNaN f (mul f x li) = false ∧ (decode f (mul f x li)).sign = false := by
  obtain ⟨m, e, hxd, hm⟩ := hx
  -- a non-zero finite value times a non-NaN one is not NaN
  have hp : ((decode f x).mulE (decode f li)).isNaN = false := by
    rw [Bool.eq_false_iff, Ne, mulE_isNaN_iff, hxd, hli.1]
    cases m <;> simp_all [Val.isNaN, Val.isInf, Val.isZero]
  unfold isNaN
  rw [decode_mul f hf, round_isNaN, round_sign]
  exact ⟨hp, by rw [mulE_sign _ _ hp, hxd, hli.2]; rfl⟩

/-- C15, sample validity: `from_zscore` of an accepted `Normal` (finite standard deviation) with a non-NaN mean is not NaN,
as a bit pattern, for a finite standard-normal variate `z` -/
theorem normal_sample_not_nan_bits (f : Fmt) (hf : f.WF) (d : Normal) (z : ℕ)
    (hsd : isFinite f d.stdDev = true) (hz : isFinite f z = true) (hm : isNaN f d.mean = false) :
    isNaN f (d.fromZscore f z) = false := by
  unfold Normal.fromZscore isNaN
  -- finite times finite is finite: neither NaN nor an infinity that could cancel against the mean
  have hp := Val.isFinite_iff.1 (Val.mulE_isFinite hsd hz)
  rw [decode_fma f hf, round_isNaN, Bool.eq_false_iff, Ne, addE_isNaN_iff, hp.1, hp.2]
  simpa [isNaN] using hm

/-- `hexp`: the assumption about libm's `exp` -/
theorem lognormal_sample_valid_bits (m : Libm) (f : Fmt) (hf : f.WF) (d : Normal) (z : ℕ)
    (hexp : ∀ x, isNaN f x = false → isNaN f (m.exp f x) = false ∧ (decode f (m.exp f x)).sign = false)
    (hsd : isFinite f d.stdDev = true) (hz : isFinite f z = true) (hm : isNaN f d.mean = false) :
    isNaN f (LogNormal.fromZscore m f d z) = false ∧ (decode f (LogNormal.fromZscore m f d z)).sign = false :=
  hexp _ (normal_sample_not_nan_bits f hf d z hsd hz hm)

/-- non-vacuity: `Exp(2.5)` is accepted, its stored inverse rate is `0.4` -/
example : Exp.tryNew b64 0x4004000000000000 = .ok 0x3FD999999999999A := by decide +kernel

end Urandom.C15
