import Urandom.Model.ReadMock
/-
C18 - Read / Mock generators pass source data through once, in order, and fail loudly.

Model: `Urandom.ReadGen` (the `Read` generator over a scripted reader with std's `read_exact`
loop) and `Urandom.MockGen`, tied to `src/rng/read.rs` / `src/rng/mock.rs` by the `read` and `mock`
correspondence streams (adversarial reader: 1-byte reads, interrupts before every chunk, errors and
end of data at every offset).  The byte counts and decode widths of the model are those read from the source in `Props/C18T.lean`.
Not stated: anything over a history of operations; the statements are per operation.
-/
namespace Urandom.C18
open Urandom.ReadGen

/-- one `read` call never invents data: it removes a prefix of the remaining data (a non-empty one unless nothing is wanted or left)
and one entry of the script -/
theorem read_ok (r : Reader) (want n : Nat) (r' : Reader) (h : r.read want = (.ok n, r')) :
    n ≤ want ∧ n ≤ r.data.length ∧ r'.data = r.data.drop n ∧ r'.script = r.script.tail ∧ (n = 0 → want = 0 ∨ r.data.length = 0) := by
  unfold Reader.read at h
  split at h <;> simp only [Prod.mk.injEq, ReadResult.ok.injEq, reduceCtorEq, false_and] at h
  all_goals
    obtain ⟨rfl, rfl⟩ := h
    rename_i hs
    exact ⟨by omega, by omega, rfl, by rw [hs]; rfl, by omega⟩

theorem read_other (r : Reader) (want : Nat) (r' : Reader) :
    (r.read want = (.interrupted, r') → r'.data = r.data ∧ r.script = .intr :: r'.script) ∧
    (r.read want = (.error, r') → r'.data = r.data ∧ r.script = .err :: r'.script) := by
  unfold Reader.read
  split <;> simp_all <;> rintro rfl <;> exact ⟨rfl, rfl⟩

/-- C18, never fabricated data: whenever `read_exact` succeeds - whatever the reader's chunking, interruptions and position - it delivers
the next `want` bytes of the underlying data, and the reader has advanced by exactly that many bytes (each byte used once) -/
theorem readExact_some (fuel want : Nat) (r : Reader) (acc b : List Byte) (r' : Reader)
    (h : readExact fuel want r acc = (some b, r')) :
    b = acc ++ r.data.take want ∧ r'.data = r.data.drop want ∧ want ≤ r.data.length := by
  -- the cases of `readExact`: 1 out of fuel, 2 done, 3 `Ok(0)` (end of data), 4 a successful partial read, 5 `Interrupted`, 6 an error
  fun_induction readExact fuel want r acc with
  | case1 | case3 | case6 => simp at h
  | case2 t r acc _ =>
    obtain ⟨rfl, rfl⟩ := h
    simp
  | case4 fuel want r acc n r1 hn0 hr ih =>
    obtain ⟨h1, h2, h3, _, _⟩ := read_ok r (want + 1) n r1 hr
    obtain ⟨e1, e2, e3⟩ := ih h
    rw [h3] at e1 e2 e3
    rw [List.length_drop] at e3
    refine ⟨?_, ?_, by omega⟩
    · rw [e1, List.append_assoc, ← List.take_add, show n + (want + 1 - n) = want + 1 by omega]
    · rw [e2, List.drop_drop, show n + (want + 1 - n) = want + 1 by omega]
  | case5 fuel want r acc r1 hr ih =>
    rw [((read_other r (want + 1) r1).1 hr).1] at ih
    exact ih h

def NoErr (script : List Ev) : Prop := Ev.err ∉ script

/-- C18, chunking and interruptions are irrelevant: a reader that does not fail and holds at least `want` more bytes delivers them, however
it chunks (short reads, 1-byte reads) and however often it reports `Interrupted` -/
theorem readExact_succeeds : ∀ (fuel want : Nat) (r : Reader) (acc : List Byte), NoErr r.script →
    want ≤ r.data.length → r.script.length + want + 1 ≤ fuel →
    ∃ r', readExact fuel want r acc = (some (acc ++ r.data.take want), r') ∧ r'.data = r.data.drop want ∧ NoErr r'.script := by
  intro fuel want r acc hne hlen hf
  -- it is enough that the call succeeds: what it then delivers is `readExact_some`
  suffices h : ∃ b r', readExact fuel want r acc = (some b, r') ∧ NoErr r'.script by
    obtain ⟨b, r', e, hn⟩ := h
    obtain ⟨rfl, e2, _⟩ := readExact_some _ _ _ _ _ _ e
    exact ⟨r', e, e2, hn⟩
  fun_induction readExact fuel want r acc with
  | case1 => omega
  | case2 t r acc _ => exact ⟨_, _, rfl, hne⟩
  | case3 fuel want r acc r1 hr =>
    have := (read_ok r _ _ _ hr).2.2.2.2 rfl
    omega
  | case4 fuel want r acc n r1 hn0 hr ih =>
    obtain ⟨h1, h2, h3, h4, _⟩ := read_ok r _ _ _ hr
    have := List.length_tail (l := r.script)
    exact ih (fun h => hne (List.mem_of_mem_tail (h4 ▸ h))) (by rw [h3, List.length_drop]; omega) (by rw [h4]; omega)
  | case5 fuel want r acc r1 hr ih =>
    obtain ⟨h1, h2⟩ := (read_other r _ r1).1 hr
    rw [h2] at hne hf
    exact ih (fun h => hne (List.mem_cons_of_mem _ h)) (by rw [h1]; exact hlen) (by simp at hf; omega)
  | case6 fuel want r acc r1 hr =>
    exact absurd (((read_other r _ r1).2 hr).2 ▸ List.mem_cons_self) hne

/-- end of data inside a request is a failure (panic), never a short or padded result -/
theorem exact_eof (r : Reader) (n : Nat) (h : r.data.length < n) : (r.exact n).1 = none := by
  cases hres : (r.exact n).1 with
  | none => rfl
  | some b =>
    have : r.exact n = (some b, (r.exact n).2) := by rw [← hres]
    have := (readExact_some _ n r [] b _ this).2.2
    omega

theorem exact_cases (r : Reader) (n : Nat) :
    (∃ r', r.exact n = (some (r.data.take n), r') ∧ r'.data = r.data.drop n) ∨ ∃ r', r.exact n = (none, r') := by
  rcases h : r.exact n with ⟨_ | b, r'⟩
  · exact .inr ⟨r', rfl⟩
  · obtain ⟨e1, e2, _⟩ := readExact_some _ n r [] b r' h
    exact .inl ⟨r', e1 ▸ rfl, e2⟩

/-! `Read`, operation by operation: words are the next 4 / 8 bytes assembled little-endian, fills are the next `n` bytes; a failed or short
read panics; `jump` does nothing. -/

theorem step_u32 (r : Reader) :
    (∃ r', step r .u32 = (.val (leVal (r.data.take 4)), r') ∧ r'.data = r.data.drop 4) ∨ (step r .u32).1 = .panic := by
  rcases exact_cases r 4 with ⟨r', e, h⟩ | ⟨r', e⟩ <;> simp only [step, e]
  · exact .inl ⟨r', rfl, h⟩
  · exact .inr trivial

theorem step_u64 (r : Reader) :
    (∃ r', step r .u64 = (.val (leVal (r.data.take 8)), r') ∧ r'.data = r.data.drop 8) ∨ (step r .u64).1 = .panic := by
  rcases exact_cases r 8 with ⟨r', e, h⟩ | ⟨r', e⟩ <;> simp only [step, e]
  · exact .inl ⟨r', rfl, h⟩
  · exact .inr trivial

theorem step_fill (r : Reader) (n : Nat) :
    (∃ r', step r (.fill n) = (.bytes (r.data.take n), r') ∧ r'.data = r.data.drop n) ∨ (step r (.fill n)).1 = .panic := by
  rcases exact_cases r n with ⟨r', e, h⟩ | ⟨r', e⟩ <;> simp only [step, e]
  · exact .inl ⟨r', rfl, h⟩
  · exact .inr trivial

theorem step_jump (r : Reader) : step r .jump = (.unit, r) := rfl

/-- `Mock` returns the provided words in order: `next_u64` is the next word, `next_u32` its low half (one word consumed), exhaustion and
`jump` panic -/
theorem mock_spec (w : BitVec 64) (ws : Words) :
    MockGen.step (w :: ws) .u64 = (.val w.toNat, ws) ∧
    MockGen.step (w :: ws) .u32 = (.val (w.toNat % 2 ^ 32), ws) ∧
    MockGen.step [] .u64 = (.panic, []) ∧ MockGen.step [] .u32 = (.panic, []) ∧
    (MockGen.step (w :: ws) .jump).1 = .panic := ⟨rfl, rfl, rfl, rfl, rfl⟩

theorem mock_fill_panics_iff (ws : Words) (n : Nat) :
    (MockGen.step ws (.fill n)).1 = .panic ↔ ws.length < (n + 7) / 8 := by
  simp only [MockGen.step]
  split <;> simp_all

example : (Reader.mk [1#8, 2#8, 3#8, 4#8, 5#8] [.chunk 1, .intr, .chunk 2]).exact 4 =
    (some [1#8, 2#8, 3#8, 4#8], ⟨[5#8], []⟩) := by rfl

end Urandom.C18
