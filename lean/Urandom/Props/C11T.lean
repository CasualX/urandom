import Urandom.Props.C11
import Urandom.Generated.ScalarFloat01
import Urandom.Lemmas.BitVecNat
/-
C11 (second module) - the bit packing of `Float01` as translated from the source (`replace_exponent_f32` / `replace_exponent_f64` of
`src/distr/float01.rs`, regenerated into `Urandom.Generated.Scalar.float01` on every run): the model's arithmetic formula
`exp * 2^52 + mantissa mod 2^52` is what the translated bit operations compute (mask, shift, or), for every value and every exponent
the sampler can pass; `float01_sample64/32_translated` add the draw order and the exponent constants of `sample`.  What the two draws
return (`next_u64().leading_zeros()`, `next_f64()`) stays tied by the correspondence.
-/
namespace Urandom.C11
open Urandom.Generated

theorem and_mask_toNat {n : Nat} (k : Nat) (hk : k < n) (v : BitVec n) :
    (v &&& ((1#n <<< k) - 1#n)).toNat = v.toNat % 2 ^ k := by
  have h1 : 2 ^ k < 2 ^ n := Nat.pow_lt_pow_right (by decide) hk
  have h0 : 1 < 2 ^ n := Nat.lt_of_le_of_lt Nat.one_le_two_pow h1
  have hm : ((1#n <<< k) - 1#n).toNat = 2 ^ k - 1 := by
    rw [BitVec.toNat_sub_of_le (by rw [BitVec.le_def, BitVec.toNat_shiftLeft]; simp [Nat.shiftLeft_eq, Nat.mod_eq_of_lt h0, Nat.mod_eq_of_lt h1]; exact Nat.one_le_two_pow)]
    simp [Nat.shiftLeft_eq, Nat.mod_eq_of_lt h0, Nat.mod_eq_of_lt h1]
  rw [BitVec.toNat_and, hm, Nat.and_two_pow_sub_one_eq_mod]

theorem replace_exponent_f64_translated (v : BitVec 64) (e : BitVec 32) (he : e.toNat < 2 ^ 11) :
    (Scalar.float01.replace_exponent_f64 v e).toNat = e.toNat * 2 ^ 52 + v.toNat % 2 ^ 52 := by
  have h := shl_or_toNat 52 (e.setWidth 64) (v &&& ((1#64 <<< 52) - 1#64))
    (by rw [and_mask_toNat 52 (by decide)]; exact Nat.mod_lt _ (by decide))
    (by rw [BitVec.toNat_setWidth, Nat.mod_eq_of_lt (by omega)]; omega)
  rw [and_mask_toNat 52 (by decide), BitVec.toNat_setWidth, Nat.mod_eq_of_lt (by omega)] at h
  exact h

theorem replace_exponent_f32_translated (v : BitVec 32) (e : BitVec 32) (he : e.toNat < 2 ^ 8) :
    (Scalar.float01.replace_exponent_f32 v e).toNat = e.toNat * 2 ^ 23 + v.toNat % 2 ^ 23 := by
  have h := shl_or_toNat 23 e (v &&& ((1#32 <<< 23) - 1#32))
    (by rw [and_mask_toNat 23 (by decide)]; exact Nat.mod_lt _ (by decide)) (by omega)
  rw [and_mask_toNat 23 (by decide)] at h
  exact h

/-- `u64::leading_zeros` as the translated `sample` receives it: the model's count, as a `u32` -/
def lz64 (w : BitVec 64) : BitVec 32 := BitVec.ofNat 32 (clz64 w)

/-- the exponent `c - leading_zeros` in `u32` arithmetic does not wrap (`64 ≤ c`) -/
theorem sub_lz64 (c : Nat) (hc : 64 ≤ c) (hc' : c < 2 ^ 32) (w : BitVec 64) :
    BitVec.ofNat 32 c - lz64 w = BitVec.ofNat 32 (c - clz64 w) := by
  have h := clz64_le w
  have hl : (lz64 w).toNat = clz64 w := toNat_ofNat_lt (by omega)
  apply BitVec.eq_of_toNat_eq
  rw [BitVec.toNat_sub_of_le (by rw [BitVec.le_def, hl, toNat_ofNat_lt hc']; omega), hl, toNat_ofNat_lt hc',
    toNat_ofNat_lt (by omega)]

/-- `Float01::sample` (f64) as translated: first a `next_u64` whose leading zeros give the exponent `1022 - lz`, then a
`next_f64` whose mantissa is kept -/
theorem float01_sample64_translated (w1 w2 : BitVec 64) :
    Scalar.float01.sample_f64_draws = ["next_u64", "next_f64"] ∧
    Float01.bits64 w1 w2 = (Scalar.float01.sample_f64 lz64 w1 (rngF64 w2)).toNat := by
  refine ⟨rfl, ?_⟩
  have he : (BitVec.ofNat 32 (1022 - clz64 w1)).toNat = 1022 - clz64 w1 := toNat_ofNat_lt (by omega)
  rw [Scalar.float01.sample_f64, sub_lz64 1022 (by decide) (by decide), replace_exponent_f64_translated _ _ (by omega), he]
  rfl

/-- f32: a `next_u64` for the exponent `126 - lz`, then a `next_f32` (the low 32 bits of the mock word) for the mantissa -/
theorem float01_sample32_translated (w1 w2 : BitVec 64) :
    Scalar.float01.sample_f32_draws = ["next_u64", "next_f32"] ∧
    Float01.bits32 w1 w2 = (Scalar.float01.sample_f32 lz64 w1 (rngF32 (w2.setWidth 32))).toNat := by
  refine ⟨rfl, ?_⟩
  have he : (BitVec.ofNat 32 (126 - clz64 w1)).toNat = 126 - clz64 w1 := toNat_ofNat_lt (by omega)
  rw [Scalar.float01.sample_f32, sub_lz64 126 (by decide) (by decide), replace_exponent_f32_translated _ _ (by omega), he]
  rfl

end Urandom.C11
