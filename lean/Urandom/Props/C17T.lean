import Urandom.Model.System
import Urandom.Generated.EffectSystem
import Urandom.Lemmas.BitVecNat
/-!
# C17 for `System<N>::next_u32` / `next_u64` as translated from the source

`tools/extract_effect.py` translates the current text of the two word methods of `impl Rng for System<N>` (src/rng/system.rs) into functions
of the `index` field (a `u32`) and `N` that return the log of what happens in program order - assignments to `self.index`, the fetch
`getentropy(&mut self.random)`, the reads `self.random[i]` - and the indices of the words that make up the result (low word first).  Run on
a state of the model (`Model/System.lean`) with its scripted entropy source - a failing fetch panics, an out-of-bounds read panics - the log
gives the model's `nextU32` / `nextU64` (`next_u32_translated`, `next_u64_translated`) for every value of the index field, every block size
`N < 2^31` with at least one word (`next_u32`) or two (`next_u64`) and every script.  The order of "invalidate the index" and "fetch" is part
of the statement: with the fetch first (defect D6) a failed fetch leaves a servable index.
-/
namespace Urandom.C17
open Urandom.SystemGen Urandom.Generated

variable {α : Type} (L : Labels α)

/-- run an event log on a model state; `false` = panicked (the state is as the panic left it) -/
def runSys (N : Nat) : St α → List SysEv → Bool × St α
  | s, [] => (true, s)
  | s, .setIndex v :: evs => runSys N { s with index := v.toNat } evs
  | s, .fetch :: evs => if (fetchBlock L N s).1 then runSys N (fetchBlock L N s).2 evs else (false, (fetchBlock L N s).2)
  | s, .load i :: evs => if i.toNat < s.buf.length then runSys N s evs else (false, s)

def wordsOf (buf : List α) (idxs : List (BitVec 64)) : List α := idxs.flatMap (fun i => (buf.drop i.toNat).take 1)

def outOf (r : Bool × St α) (idxs : List (BitVec 64)) : SystemGen.Out α × St α :=
  if r.1 then (.words (wordsOf r.2.buf idxs), r.2) else (.panic, r.2)

theorem fetchBlock_length (N : Nat) (s : St α) : (fetchBlock L N s).2.buf.length = N := by
  unfold fetchBlock; simp only; split <;> simp

/-- the refill of both word methods: the index is invalidated, then the block fetched -/
theorem runSys_refill (N : Nat) (s : St α) (evs : List SysEv) :
    runSys L N s (.setIndex 4294967295#32 :: .fetch :: evs) =
      if (fetchBlock L N { s with index := 2 ^ 32 - 1 }).1 then runSys L N (fetchBlock L N { s with index := 2 ^ 32 - 1 }).2 evs
      else (false, (fetchBlock L N { s with index := 2 ^ 32 - 1 }).2) := rfl

theorem runSys_serve (N : Nat) (s : St α) (idxs : List (BitVec 64)) (v : BitVec 32) (h : ∀ i ∈ idxs, i.toNat < s.buf.length) :
    outOf (runSys L N s (idxs.map SysEv.load ++ [SysEv.setIndex v])) idxs =
      (.words (wordsOf s.buf idxs), { s with index := v.toNat }) := by
  have hr : runSys L N s (idxs.map SysEv.load ++ [SysEv.setIndex v]) = (true, { s with index := v.toNat }) := by
    induction idxs with
    | nil => rfl
    | cons i idxs ih =>
      rw [List.map_cons, List.cons_append, runSys, if_pos (h i List.mem_cons_self)]
      exact ih fun j hj => h j (List.mem_cons_of_mem _ hj)
  rw [hr]; rfl

theorem next_u32_translated (N : Nat) (s : St α) (hN : 1 ≤ N) (hN' : N < 2 ^ 31) (hi : s.index < 2 ^ 32) (hb : s.buf.length = N) :
    outOf (runSys L N s (Effect.system.next_u32 (BitVec.ofNat 32 s.index) (BitVec.ofNat 64 N)).1)
      (Effect.system.next_u32 (BitVec.ofNat 32 s.index) (BitVec.ofNat 64 N)).2 = nextU32 L N s := by
  have hx := toNat_setWidth_ofNat hi
  have hNN : (BitVec.ofNat 64 N).toNat = N := toNat_ofNat_lt (by omega)
  unfold Effect.system.next_u32 nextU32
  generalize (BitVec.ofNat 32 s.index).setWidth 64 = x at hx
  have hb' : x ≥ BitVec.ofNat 64 N ↔ s.index ≥ N := by rw [ge_iff_le, BitVec.le_def, hNN, hx]
  -- no word left: refill, and if the fetch succeeded serve word 0; otherwise serve word `index`
  by_cases hc : s.index ≥ N
  · have hN0 : ¬ (N = 0) := by omega
    simp only [hb', hc, if_true, hN0, if_false, List.nil_append, List.cons_append, runSys_refill]
    have hl := fetchBlock_length L N { s with index := 2 ^ 32 - 1 }
    cases hok : (fetchBlock L N { s with index := 2 ^ 32 - 1 }).1
    · simp [outOf]
    · exact (runSys_serve L N _ [0#64] _ (by simp [hl]; omega)).trans (by simp [wordsOf])
  · have hset : ((x + 1#64).setWidth 32).toNat = s.index + 1 := by
      simp only [BitVec.toNat_setWidth, BitVec.toNat_add, BitVec.toNat_ofNat, hx]; omega
    simp only [hb', hc, if_false, List.nil_append, List.cons_append]
    exact (runSys_serve L N s [x] _ (by simp [hx, hb]; omega)).trans (by simp [wordsOf, hx, hset])

theorem take_two (l : List α) (i : Nat) :
    (l.drop i).take 1 ++ (l.drop (i + 1)).take 1 = (l.drop i).take 2 := by
  rw [List.take_add (i := 1) (j := 1), List.drop_drop]

theorem next_u64_translated (N : Nat) (s : St α) (hN : 2 ≤ N) (hN' : N < 2 ^ 31) (hi : s.index < 2 ^ 32) (hb : s.buf.length = N) :
    outOf (runSys L N s (Effect.system.next_u64 (BitVec.ofNat 32 s.index) (BitVec.ofNat 64 N)).1)
      (Effect.system.next_u64 (BitVec.ofNat 32 s.index) (BitVec.ofNat 64 N)).2 = nextU64 L N s := by
  have hx := toNat_setWidth_ofNat hi
  have hNN : (BitVec.ofNat 64 N).toNat = N := toNat_ofNat_lt (by omega)
  have hN1 : (BitVec.ofNat 64 N - 1#64).toNat = N - 1 := by
    rw [BitVec.toNat_sub_of_le (by rw [BitVec.le_def, hNN]; simp; omega), hNN]; rfl
  unfold Effect.system.next_u64 nextU64
  generalize (BitVec.ofNat 32 s.index).setWidth 64 = x at hx
  have hN0 : ¬ (N = 0) := by omega
  have hN2 : ¬ (N < 2) := by omega
  -- fewer than two words left: refill, and if the fetch succeeded serve words 0 and 1; otherwise serve words `index`, `index + 1`
  have hb' : x ≥ BitVec.ofNat 64 N - 1#64 ↔ s.index ≥ N - 1 := by rw [ge_iff_le, BitVec.le_def, hN1, hx]
  by_cases hc : s.index ≥ N - 1
  · simp only [hb', hc, if_true, hN0, hN2, if_false, List.nil_append, List.cons_append, runSys_refill]
    have hl := fetchBlock_length L N { s with index := 2 ^ 32 - 1 }
    cases hok : (fetchBlock L N { s with index := 2 ^ 32 - 1 }).1
    · simp [outOf]
    · refine (runSys_serve L N _ [0#64 + 0#64, 0#64 + 1#64] _ (by simp [hl]; omega)).trans ?_
      have := take_two (fetchBlock L N { s with index := 2 ^ 32 - 1 }).2.buf 0
      simp at this
      simp [wordsOf, this]
  · have ha1 : (x + 1#64).toNat = s.index + 1 := by
      simp only [BitVec.toNat_add, BitVec.toNat_ofNat, hx]; omega
    have hset : ((x + 2#64).setWidth 32).toNat = s.index + 2 := by
      simp only [BitVec.toNat_setWidth, BitVec.toNat_add, BitVec.toNat_ofNat, hx]; omega
    simp only [hb', hc, if_false, hN0, List.nil_append, List.cons_append]
    refine (runSys_serve L N s [x + 0#64, x + 1#64] _ (by simp [hx, ha1, hb]; omega)).trans ?_
    simp [wordsOf, hx, ha1, hset, take_two s.buf s.index]

/-- the hypotheses are satisfiable: a fresh `System<4>` with a script -/
example : (2 : Nat) ≤ 4 ∧ (St.new natLabels 4 [true, false]).index < 2 ^ 32 ∧ (St.new natLabels 4 [true, false]).buf.length = 4 := by decide

end Urandom.C17
