import Urandom.Props.C13
import Urandom.Generated.ScalarStandard
/-!
C13 for the `impl_standard_dist!` invocations as translated from the source.  `tools/extract_scalar.py` reads every invocation
`impl_standard_dist! { <ty>, rand => <expression> }` of src/distr/standard.rs (bool, the twelve plain integer types of the 64-bit
target, f32, f64) and translates the expression into a function of the draws it makes, in
evaluation order, together with the list of the draw methods.  The model's `primSample` - what `Props/C13.lean` proves bijective / in range -
is proved here to be exactly these functions of exactly these draws, for every word: which method is drawn (a 32-bit or a 64-bit draw, how
many), which bits are kept by the cast, the sign test for `bool`, low word first for the 128-bit types.
`Alnum` (src/distr/alnum.rs): the table and one trip round its loop.
`char`: the gap constant, the bounds of the uniform draw, the gap removal, and (checked by the translator) the two conversions.
(The `NonZero*` loop up to 64 bits, arrays, `fill` and the tuple arities are in `Props/C13R.lean`; the 128-bit `NonZero` loop and the
tuple bodies stay tied by the correspondence and the preimage counts.)
-/
namespace Urandom.C13
open Urandom.Standard Urandom.Generated

theorem bool_translated (c : Bool) (w : BitVec 64) (ws : Words) :
    Scalar.standard.std_bool_draws = ["next_u32"] ∧
    primSample c .bool (w :: ws) = some ((if Scalar.standard.std_bool (w.setWidth 32) then 1 else 0), ws) := by
  refine ⟨rfl, ?_⟩
  -- `(x as i32) < 0` is the top bit
  have h : Scalar.standard.std_bool (w.setWidth 32) = decide ((w.setWidth 32).toNat ≥ 2 ^ 31) := by
    rw [Scalar.standard.std_bool, BitVec.slt_zero_eq_msb, BitVec.msb_eq_decide]
  simp only [primSample, Mock.u32, h, decide_eq_true_eq]

/-- the integer types of at most 32 bits: one `next_u32`, truncated -/
theorem int_le32_translated (c sg : Bool) (w : BitVec 64) (ws : Words) :
    Scalar.standard.std_i8_draws = ["next_u32"] ∧ Scalar.standard.std_u8_draws = ["next_u32"] ∧
    Scalar.standard.std_i16_draws = ["next_u32"] ∧ Scalar.standard.std_u16_draws = ["next_u32"] ∧
    Scalar.standard.std_i32_draws = ["next_u32"] ∧ Scalar.standard.std_u32_draws = ["next_u32"] ∧
    primSample c (.int 8 sg) (w :: ws) = some ((Scalar.standard.std_i8 (w.setWidth 32)).toNat, ws) ∧
    primSample c (.int 8 sg) (w :: ws) = some ((Scalar.standard.std_u8 (w.setWidth 32)).toNat, ws) ∧
    primSample c (.int 16 sg) (w :: ws) = some ((Scalar.standard.std_i16 (w.setWidth 32)).toNat, ws) ∧
    primSample c (.int 16 sg) (w :: ws) = some ((Scalar.standard.std_u16 (w.setWidth 32)).toNat, ws) ∧
    primSample c (.int 32 sg) (w :: ws) = some ((Scalar.standard.std_i32 (w.setWidth 32)).toNat, ws) ∧
    primSample c (.int 32 sg) (w :: ws) = some ((Scalar.standard.std_u32 (w.setWidth 32)).toNat, ws) := by
  refine ⟨rfl, rfl, rfl, rfl, rfl, rfl, ?_, ?_, ?_, ?_, ?_, ?_⟩ <;>
    simp [primSample, intSample, Mock.u32, Scalar.standard.std_i8, Scalar.standard.std_u8, Scalar.standard.std_i16,
      Scalar.standard.std_u16, Scalar.standard.std_i32, Scalar.standard.std_u32, BitVec.toNat_setWidth]

/-- the 64-bit types: one `next_u64`, as it is -/
theorem int_64_translated (c sg : Bool) (w : BitVec 64) (ws : Words) :
    Scalar.standard.std_i64_draws = ["next_u64"] ∧ Scalar.standard.std_u64_draws = ["next_u64"] ∧
    Scalar.standard.std_isize_draws = ["next_u64"] ∧ Scalar.standard.std_usize_draws = ["next_u64"] ∧
    primSample c (.int 64 sg) (w :: ws) = some ((Scalar.standard.std_i64 w).toNat, ws) ∧
    primSample c (.int 64 sg) (w :: ws) = some ((Scalar.standard.std_u64 w).toNat, ws) ∧
    primSample c (.int 64 sg) (w :: ws) = some ((Scalar.standard.std_isize w).toNat, ws) ∧
    primSample c (.int 64 sg) (w :: ws) = some ((Scalar.standard.std_usize w).toNat, ws) := by
  refine ⟨rfl, rfl, rfl, rfl, ?_, ?_, ?_, ?_⟩ <;>
    simp [primSample, intSample, Mock.u64, Scalar.standard.std_i64, Scalar.standard.std_u64, Scalar.standard.std_isize,
      Scalar.standard.std_usize] <;> omega

/-- the 128-bit types: two `next_u64`, the first is the low half -/
theorem int_128_translated (c sg : Bool) (lo hi : BitVec 64) (ws : Words) :
    Scalar.standard.std_i128_draws = ["next_u64", "next_u64"] ∧ Scalar.standard.std_u128_draws = ["next_u64", "next_u64"] ∧
    primSample c (.int 128 sg) (lo :: hi :: ws) = some ((Scalar.standard.std_i128 lo hi).toNat, ws) ∧
    primSample c (.int 128 sg) (lo :: hi :: ws) = some ((Scalar.standard.std_u128 lo hi).toNat, ws) := by
  have e : ((lo.setWidth 128) ||| ((hi.setWidth 128) <<< 64)).toNat = lo.toNat ||| (hi.toNat <<< 64) := by
    rw [BitVec.toNat_or, BitVec.toNat_shiftLeft, BitVec.toNat_setWidth, BitVec.toNat_setWidth, Nat.shiftLeft_eq,
      Nat.mod_eq_of_lt (show lo.toNat < 2 ^ 128 by omega), Nat.mod_eq_of_lt (show hi.toNat < 2 ^ 128 by omega),
      Nat.mod_eq_of_lt (show hi.toNat * 2 ^ 64 < 2 ^ 128 by omega), Nat.shiftLeft_eq]
  refine ⟨rfl, rfl, ?_, ?_⟩ <;>
    simp [primSample, intSample, Scalar.standard.std_i128, Scalar.standard.std_u128, e]

/-- `f32` / `f64`: one `next_f32` / `next_f64` (the generator's own float draw), as it is -/
theorem float_translated (c : Bool) (w : BitVec 64) (ws : Words) :
    Scalar.standard.std_f32_draws = ["next_f32"] ∧ Scalar.standard.std_f64_draws = ["next_f64"] ∧
    primSample c .f32 (w :: ws) = some ((Scalar.standard.std_f32 (rngF32 (w.setWidth 32))).toNat, ws) ∧
    primSample c .f64 (w :: ws) = some ((Scalar.standard.std_f64 (rngF64 w)).toNat, ws) := by
  refine ⟨rfl, rfl, ?_, ?_⟩ <;>
    simp [primSample, Mock.f32, Mock.f64, Scalar.standard.std_f32, Scalar.standard.std_f64]

theorem alnum_table_translated : Alnum.table = Scalar.alnum.alnum_table.map Char.ofNat := by rw [table_eq]; decide +kernel

/-- one trip round `Alnum`'s loop: one `next_u32`, its top six bits index the table, an index of 62 or 63 goes round again; an
out-of-bounds table access of the translated code (`some none`) is matched with a failure of the model, not excluded -/
theorem alnum_translated (w : BitVec 64) (ws : Words) :
    Scalar.alnum.alnum_draws = ["next_u32"] ∧
    Alnum.sample (w :: ws) =
      (match Scalar.alnum.alnum_iter (w.setWidth 32) with
       | some (some c) => some (Char.ofNat c, ws)
       | some none => none
       | none => Alnum.sample ws) := by
  refine ⟨rfl, ?_⟩
  have hv : (((w.setWidth 32) >>> (32 - 6)).setWidth 64).toNat = (w.setWidth 32).toNat >>> 26 := by
    rw [BitVec.toNat_setWidth, BitVec.toNat_ushiftRight, Nat.mod_eq_of_lt (by rw [Nat.shiftRight_eq_div_pow]; omega)]
  have hl : (BitVec.ofNat 64 Scalar.alnum.alnum_table.length).toNat = Scalar.alnum.alnum_table.length := by decide
  rw [Alnum.sample, Scalar.alnum.alnum_iter]
  -- with the model's table written as the translated one under `Char.ofNat`, both sides test the same index against the same length
  simp only [BitVec.lt_def, hv, hl, alnum_table_translated, List.length_map, List.getElem_map]
  split
  · rename_i h; rw [List.getElem?_eq_getElem h]
  · rfl

/-- the `char` sampler: `GAP_SIZE = 0xE000 - 0xD800`, the draw is `Uniform::new(GAP_SIZE, 0x11_0000)` (exclusive, on u32) -
the model's `tryNew IntTy.u32 GAP_SIZE 0x110000 false` -, and for every value of that range the gap removal is the model's `charOf`
(the subtraction cannot wrap there) -/
theorem char_translated :
    Scalar.standard.char_gap.toNat = GAP_SIZE ∧
    Scalar.standard.char_bounds = (BitVec.ofNat 32 GAP_SIZE, BitVec.ofNat 32 0x110000) ∧
    ∀ n : BitVec 32, GAP_SIZE ≤ n.toNat → (Scalar.standard.char_of n).toNat = charOf n.toNat := by
  refine ⟨by decide, by decide, ?_⟩
  intro n hn
  have hg : Scalar.standard.char_gap = 2048#32 := by decide
  unfold Scalar.standard.char_of charOf
  rw [hg] at *
  by_cases h : n < 57344#32
  · have h' : n.toNat < 0xE000 := by rw [BitVec.lt_def] at h; exact h
    have hle : 2048#32 ≤ n := by rw [BitVec.le_def]; exact hn
    simp only [h, if_true, h', BitVec.toNat_sub_of_le hle]
    rfl
  · have h' : ¬ n.toNat < 0xE000 := by rw [BitVec.lt_def] at h; exact h
    simp only [h, if_false, h']

end Urandom.C13
