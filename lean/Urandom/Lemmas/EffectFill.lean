import Urandom.Lemmas.Fill
import Urandom.Generated.EffectFill
import Urandom.Lemmas.BitVecNat
/-!
Lemmas for `Props/C10T.lean`: the translated `rng_fill_bytes` in closed form - the records of the `while len >= 8` loop, then those of the
4 / 2 / 1 byte tail -, the model's recursion in the same form, and the byte-level reading of a `PtrWrite` record.
-/
namespace Urandom.C10
open Urandom.Generated

variable {σ : Type}

/-- the store a record stands for: the first `n` little-endian bytes of its value at its offset -/
def toWrite (p : PtrWrite) : Write := ⟨p.off.toNat, leBytes p.value p.n⟩

/-- the records of `k` rounds of the loop -/
def loopW (g : WordGen σ) : Nat → BitVec 64 → σ → List PtrWrite
  | 0, _, _ => []
  | k+1, ptr, s => ⟨ptr, 8, 64, (g.u64 s).1⟩ :: loopW g k (ptr + 8#64) (g.u64 s).2

theorem while1_closed (g : WordGen σ) : ∀ (fuel : Nat) (ptr len : BitVec 64) (s : σ) (log : List PtrWrite) (d : Bool),
    len.toNat / 8 < fuel →
    Effect.rng_fill_bytes_while1 g.u64 fuel (ptr, len, s, log, d) =
      (ptr + BitVec.ofNat 64 (8 * (len.toNat / 8)), BitVec.ofNat 64 (len.toNat % 8), g.after (len.toNat / 8) s,
        log ++ loopW g (len.toNat / 8) ptr s, d) := by
  intro fuel
  induction fuel with
  | zero => intro _ _ _ _ _ h; omega
  | succ fuel ih =>
    intro ptr len s log d h
    rw [Effect.rng_fill_bytes_while1]
    by_cases hc : len ≥ 8#64
    · obtain ⟨k, hk, hq, hr⟩ := countdown_step (B := 8) (by omega) (by omega) hc
      simp only [hc, if_true]
      rw [ih _ _ _ _ _ (by rw [hq]; omega), hq, hr, hk]
      simp only [loopW, after_succ', List.append_assoc, List.singleton_append, add_ofNat_step]
    · obtain ⟨hq, hr⟩ := countdown_exit (B := 8) (by omega) hc
      simp [hc, hq, hr, loopW]

/-- the model's recursion in the same closed form: the stores of the loop's records (while the pointer does not wrap), then the tail -/
theorem model_closed (g : WordGen σ) (s : σ) (off len : Nat) : ∀ ptr : BitVec 64, ptr.toNat = off → off + len < 2 ^ 64 →
    rngFillWrites g s off len =
      ((loopW g (len / 8) ptr s).map toWrite ++
        (if len % 8 > 0 then fillTail (g.u64 (g.after (len / 8) s)).1 (off + 8 * (len / 8)) (len % 8) else []),
       if len % 8 > 0 then (g.u64 (g.after (len / 8) s)).2 else g.after (len / 8) s) := by
  fun_induction rngFillWrites g s off len with
  | case1 s off len h8 v s' hv ws s'' e ih =>
    intro ptr hp hw
    have hk : len / 8 = (len - 8) / 8 + 1 := by omega
    have hr : (len - 8) % 8 = len % 8 := by omega
    have hp8 : (ptr + 8#64).toNat = off + 8 := by rw [BitVec.toNat_add_of_lt (by simp; omega), hp]; rfl
    rw [e] at ih
    obtain ⟨rfl, rfl⟩ := Prod.mk.inj (ih (ptr + 8#64) hp8 (by omega))
    simp only [hk, hr, loopW, after_succ', hv, List.map_cons, toWrite, hp, List.cons_append,
      show off + 8 * ((len - 8) / 8 + 1) = off + 8 + 8 * ((len - 8) / 8) by omega]
  | case2 s off len h8 h0 v s' hv =>
    intro ptr _ _
    simp [show len / 8 = 0 by omega, show len % 8 = len by omega, h0, loopW, hv]
  | case3 s off len h8 h0 =>
    intro ptr _ _
    obtain rfl : len = 0 := by omega
    simp [loopW]

/-- storing the little-endian bytes of `value as uW` (W = 8 n' bits, n ≤ n' bytes kept) stores the low bytes of `value` -/
theorem leBytes_trunc (v : BitVec 64) (w n : Nat) (hw : 8 * n ≤ w) (h64 : w ≤ 64) :
    leBytes ((v.setWidth w).setWidth 64) n = leBytes v n := by
  apply List.map_congr_left
  intro i hi
  have hi' : i < n := by simpa using hi
  apply BitVec.eq_of_getLsbD_eq
  intro j hj
  have h1 : 8 * i + j < w := by omega
  have h2 : 8 * i + j < 64 := by omega
  simp [h1, h2]

theorem loopW_width (g : WordGen σ) : ∀ (k : Nat) (ptr : BitVec 64) (s : σ), ∀ p ∈ loopW g k ptr s, p.n * 8 = p.width
  | 0, _, _, _, hp => by simp [loopW] at hp
  | k+1, ptr, s, p, hp => by
    rcases List.mem_cons.1 hp with rfl | hp
    · rfl
    · exact loopW_width g k _ _ p hp

/-- the records of the 4 / 2 / 1 byte tail for `0 < len < 8` left-over bytes of the word `v`: `fillTail` as the translated code does it,
on `value as u32` etc. and with a 64-bit pointer; it exists only to give the tail of the generated function a name -/
def tailW (v ptr : BitVec 64) (len : Nat) : List PtrWrite :=
  let (w4, ptr, len, v) :=
    if len ≥ 4 then ([PtrWrite.mk ptr 4 32 ((v.setWidth 32).setWidth 64)], ptr + 4#64, len - 4, v >>> 32) else ([], ptr, len, v)
  let (w2, ptr, len, v) :=
    if len ≥ 2 then ([PtrWrite.mk ptr 2 16 ((v.setWidth 16).setWidth 64)], ptr + 2#64, len - 2, v >>> 16) else ([], ptr, len, v)
  let w1 := if len ≥ 1 then [PtrWrite.mk ptr 1 8 ((v.setWidth 8).setWidth 64)] else []
  w4 ++ w2 ++ w1

theorem tailW_width (v ptr : BitVec 64) (len : Nat) (h8 : len < 8) : ∀ p ∈ tailW v ptr len, p.n * 8 = p.width := by
  revert len
  apply forall_lt_eight <;> simp [tailW]

theorem tailW_toWrite (v ptr : BitVec 64) (len : Nat) (h8 : len < 8) (hp : ptr.toNat + 8 ≤ 2 ^ 64) :
    (tailW v ptr len).map toWrite = fillTail v ptr.toNat len := by
  have hp4 : (ptr + 4#64).toNat = ptr.toNat + 4 := BitVec.toNat_add_of_lt (by simp; omega)
  have hp2 : (ptr + 2#64).toNat = ptr.toNat + 2 := BitVec.toNat_add_of_lt (by simp; omega)
  have hp6 : (ptr + 4#64 + 2#64).toNat = ptr.toNat + 6 := by rw [BitVec.toNat_add_of_lt (by simp; omega), hp4]; rfl
  have t32 := fun v => leBytes_trunc v 32 4 (by omega) (by omega)
  have t16 := fun v => leBytes_trunc v 16 2 (by omega) (by omega)
  have t8 := fun v => leBytes_trunc v 8 1 (by omega) (by omega)
  revert len
  apply forall_lt_eight <;> simp [tailW, fillTail, toWrite, hp4, hp2, hp6, t32, t16, t8]

/-- the translated `rng_fill_bytes` in closed form: the records of the loop, then those of the tail -/
theorem rng_fill_bytes_closed (g : WordGen σ) (s : σ) (L : BitVec 64) :
    Effect.rng_fill_bytes g.u64 s L =
      (loopW g (L.toNat / 8) 0#64 s ++
        (if L.toNat % 8 > 0 then tailW (g.u64 (g.after (L.toNat / 8) s)).1 (0#64 + BitVec.ofNat 64 (8 * (L.toNat / 8))) (L.toNat % 8) else []),
       if L.toNat % 8 > 0 then (g.u64 (g.after (L.toNat / 8) s)).2 else g.after (L.toNat / 8) s, false) := by
  have hfuel : L.toNat / 8 < 2 ^ 64 := by have := L.isLt; omega
  unfold Effect.rng_fill_bytes
  simp only [while1_closed g _ _ _ _ _ _ hfuel, List.nil_append]
  have hr8 : L.toNat % 8 < 8 := Nat.mod_lt _ (by omega)
  generalize L.toNat / 8 = q
  generalize L.toNat % 8 = r at *
  revert r
  apply forall_lt_eight <;> simp [tailW]

end Urandom.C10
