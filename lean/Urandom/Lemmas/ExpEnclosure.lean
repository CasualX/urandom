import Mathlib.Analysis.Complex.Exponential
import Mathlib.Tactic.Ring
import Mathlib.Tactic.FieldSimp
import Mathlib.Tactic.Positivity
/-
Machine-checkable enclosures of `Real.exp` at negative rationals, by natural-number arithmetic only:
the Taylor polynomial of degree `n` at `x = -a/b` (with `|x| ≤ 1/2`) in Horner form as one fraction
(`horner`), Mathlib's remainder bound `Real.exp_bound`, and `exp (k·x) = (exp x)^k` for the argument
reduction.  `entryOk` is the Boolean the kernel evaluates for one table entry: degree `n` and enclosure
width `1/w` are its arguments, the scale `10^18` (the tables are printed with 18 decimals) and the relative
tolerance `10^-13` are fixed in it.
-/
namespace Urandom.ExpEncl
open Finset

/-- Horner steps `j = n, …, 1` of `t ↦ 1 - a/(b·j) · t` on the fraction `t = st.1 / st.2`
(the subtraction in `ℕ` is exact when `st.1 ≤ st.2` and `2a ≤ b`) -/
def horner (a b : ℕ) : ℕ → ℕ × ℕ → ℕ × ℕ
  | 0, st => st
  | j + 1, st => horner a b j (st.2 * (b * (j + 1)) - a * st.1, st.2 * (b * (j + 1)))

/-- the top term is weighted by `N/D ∈ [0,1]` so that the induction goes through -/
theorem horner_spec (a b : ℕ) (hb : 0 < b) (hab : 2 * a ≤ b) (n : ℕ) : ∀ N D : ℕ, 0 < D → N ≤ D →
    0 < (horner a b n (N, D)).2 ∧ (horner a b n (N, D)).1 ≤ (horner a b n (N, D)).2 ∧
    ((horner a b n (N, D)).1 : ℝ) / (horner a b n (N, D)).2 =
      ∑ j ∈ range n, (-(a : ℝ) / b) ^ j / j.factorial + (-(a : ℝ) / b) ^ n / n.factorial * (N / D) := by
  induction n with
  | zero => intro N D hD hN; simp [horner, hD, hN]
  | succ n ih =>
    intro N D hD hN
    have hsub : a * N ≤ D * (b * (n + 1)) :=
      calc a * N ≤ b * D := Nat.mul_le_mul (by omega) hN
        _ = D * (b * 1) := by ring
        _ ≤ D * (b * (n + 1)) := by gcongr; omega
    obtain ⟨h1, h2, h3⟩ := ih (D * (b * (n + 1)) - a * N) (D * (b * (n + 1))) (by positivity) (Nat.sub_le _ _)
    refine ⟨h1, h2, ?_⟩
    rw [horner, h3, sum_range_succ, Nat.cast_sub hsub, pow_succ, Nat.factorial_succ]
    push_cast
    field_simp
    ring

/-- `hw`: `w` is at most the reciprocal of Mathlib's remainder bound at `|x| = 1/2` -/
theorem exp_encl (n w a b : ℕ) (hb : 0 < b) (hab : 2 * a ≤ b) (hw0 : 0 < w)
    (hw : (n + 1 + 1) * w ≤ (n + 1).factorial * (n + 1) * 2 ^ (n + 1)) :
    |Real.exp (-(a : ℝ) / b) - ((horner a b n (1, 1)).1 : ℝ) / (horner a b n (1, 1)).2| ≤ 1 / w := by
  have hbR : (0 : ℝ) < b := by exact_mod_cast hb
  have habR : 2 * (a : ℝ) ≤ b := by exact_mod_cast hab
  have hx : |(-(a : ℝ) / b)| ≤ 1 / 2 := by
    rw [neg_div, abs_neg, abs_of_nonneg (div_nonneg a.cast_nonneg hbR.le)]
    exact (div_le_div_iff₀ hbR two_pos).2 (by rw [one_mul, mul_comm]; exact habR)
  have h := Real.exp_bound (hx.trans (half_le_self zero_le_one)) (n := n + 1) (Nat.succ_pos n)
  have hs := (horner_spec a b hb hab n 1 1 one_pos le_rfl).2.2
  rw [Nat.cast_one, div_one, mul_one, ← sum_range_succ] at hs
  rw [hs]
  refine h.trans ((mul_le_mul_of_nonneg_right (pow_le_pow_left₀ (abs_nonneg _) hx _) (by positivity)).trans ?_)
  rw [one_div_pow, one_div_mul_eq_div, div_div]
  exact (div_le_div_iff₀ (by positivity) (Nat.cast_pos.2 hw0)).2 (by rw [one_mul]; exact_mod_cast hw)

/-- the real-number content of `entryOk`, free of the table's constants -/
theorem pow_encl {x s d w F S T : ℝ} (k : ℕ) (hd : 0 < d) (hw : 0 < w) (hS : 0 < S) (hT : 0 < T)
    (hx : |x - s / d| ≤ 1 / w) (hl : d ≤ s * w)
    (hlo : F * T * (d * w) ^ k ≤ (s * w - d) ^ k * (S * T) + F * (d * w) ^ k)
    (hhi : (s * w + d) ^ k * (S * T) ≤ F * (T + 1) * (d * w) ^ k) :
    |x ^ k - F / S| ≤ F / S / T := by
  have hdw : 0 < d * w := mul_pos hd hw
  have hW : 0 < (d * w) ^ k := pow_pos hdw k
  have hST : 0 < S * T := mul_pos hS hT
  -- the enclosure of `x` as two fractions over `d·w`
  rw [abs_sub_le_iff, sub_le_iff_le_add', sub_le_comm, div_add_div _ _ hd.ne' hw.ne',
    div_sub_div _ _ hd.ne' hw.ne', mul_one] at hx
  have hl0 : 0 ≤ (s * w - d) / (d * w) := div_nonneg (sub_nonneg.2 hl) hdw.le
  -- its `k`-th power, and the two checked inequalities as fractions
  have huk := pow_le_pow_left₀ (hl0.trans hx.2) hx.1 k
  have hlk := pow_le_pow_left₀ hl0 hx.2 k
  rw [div_pow] at huk hlk
  have hup : x ^ k ≤ F * (T + 1) / (S * T) := huk.trans ((div_le_div_iff₀ hW hST).2 hhi)
  have hdn : F * (T - 1) / (S * T) ≤ x ^ k :=
    le_trans ((div_le_div_iff₀ hST hW).2 (by rw [mul_sub_one, sub_mul]; exact sub_le_iff_le_add.2 hlo)) hlk
  -- `F/S ± F/S/T = F·(T ± 1)/(S·T)`
  rw [abs_sub_le_iff, div_div, ← mul_div_mul_right F S hT.ne', sub_le_iff_le_add', sub_le_comm,
    ← add_div, ← sub_div, ← mul_add_one, ← mul_sub_one]
  exact ⟨hup, hdn⟩

/-- the Boolean the kernel evaluates for one table entry: the ordinate `Fn / 10^18` against
`exp (-A/B)`, computed as `(exp (-A/(B·k)))^k` from the degree-`n` enclosure of width `1/w`;
relative tolerance `10^-13` -/
def entryOk (n w A B k Fn : ℕ) : Bool :=
  let st := horner A (B * k) n (1, 1)
  let s := st.1
  let d := st.2
  decide (0 < B * k) && decide (2 * A ≤ B * k) && decide (d ≤ s * w) &&
    decide (Fn * 10 ^ 13 * (d * w) ^ k ≤ (s * w - d) ^ k * (10 ^ 18 * 10 ^ 13) + Fn * (d * w) ^ k) &&
    decide ((s * w + d) ^ k * (10 ^ 18 * 10 ^ 13) ≤ Fn * (10 ^ 13 + 1) * (d * w) ^ k)

theorem entryOk_sound (n w A B k Fn : ℕ)
    (hw : (n + 1 + 1) * w ≤ (n + 1).factorial * (n + 1) * 2 ^ (n + 1))
    (h : entryOk n w A B k Fn = true) :
    |Real.exp (-(A : ℝ) / B) - (Fn : ℝ) / 10 ^ 18| ≤ (Fn : ℝ) / 10 ^ 18 / 10 ^ 13 := by
  simp only [entryOk, Bool.and_eq_true, decide_eq_true_eq] at h
  obtain ⟨⟨⟨⟨hb, hab⟩, hL⟩, hlo⟩, hhi⟩ := h
  have hd := (horner_spec A (B * k) hb hab n 1 1 one_pos le_rfl).1
  have hk : 0 < k := Nat.pos_of_mul_pos_left hb
  have hw0 : 0 < w := Nat.pos_of_mul_pos_left (hd.trans_le hL)
  have he := exp_encl n w A (B * k) hb hab hw0 hw
  have hy : Real.exp (-(A : ℝ) / B) = Real.exp (-(A : ℝ) / ((B * k : ℕ) : ℝ)) ^ k := by
    have hkR : (k : ℝ) ≠ 0 := by exact_mod_cast hk.ne'
    rw [← Real.exp_nat_mul, Nat.cast_mul, ← div_div, mul_div_cancel₀ _ hkR]
  rw [hy]
  refine pow_encl k (Nat.cast_pos.2 hd) (Nat.cast_pos.2 hw0) (by positivity) (by positivity) he
    (by exact_mod_cast hL) ?_ ?_
  · exact_mod_cast hlo
  · exact_mod_cast hhi

end Urandom.ExpEncl
