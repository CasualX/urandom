/- `usize` values of the translated code against the model's naturals. -/
namespace Urandom

theorem toNat_ofNat_lt {w n : Nat} (h : n < 2 ^ w) : (BitVec.ofNat w n).toNat = n := by
  rw [BitVec.toNat_ofNat, Nat.mod_eq_of_lt h]

theorem ofNat_gt_one {n : Nat} (hn : n < 2 ^ 64) : BitVec.ofNat 64 n > 1#64 ↔ 1 < n := by
  rw [gt_iff_lt, BitVec.lt_def, toNat_ofNat_lt hn]; rfl

theorem toNat_setWidth_ofNat {i : Nat} (h : i < 2 ^ 32) : ((BitVec.ofNat 32 i).setWidth 64).toNat = i := by
  rw [BitVec.toNat_setWidth, toNat_ofNat_lt h]; omega

/-! one round of a loop `while len >= B { .. ; off += B; len -= B }`, against the closed form `off + B * (len / B)`, `len % B` -/

theorem countdown_step {w B : Nat} (hB : 0 < B) (hBw : B < 2 ^ w) {len : BitVec w} (hc : len ≥ BitVec.ofNat w B) :
    ∃ k, len.toNat / B = k + 1 ∧ (len - BitVec.ofNat w B).toNat / B = k ∧ (len - BitVec.ofNat w B).toNat % B = len.toNat % B := by
  have hle : B ≤ len.toNat := by rwa [ge_iff_le, BitVec.le_def, toNat_ofNat_lt hBw] at hc
  rw [BitVec.toNat_sub_of_le hc, toNat_ofNat_lt hBw]
  have e : len.toNat = len.toNat - B + B := by omega
  exact ⟨(len.toNat - B) / B, by rw [e, Nat.add_div_right _ hB, Nat.add_sub_cancel], rfl, by rw [e, Nat.add_mod_right, Nat.add_sub_cancel]⟩

theorem countdown_exit {w B : Nat} (hBw : B < 2 ^ w) {len : BitVec w} (hc : ¬ len ≥ BitVec.ofNat w B) :
    len.toNat / B = 0 ∧ len.toNat % B = len.toNat := by
  have hlt : len.toNat < B := by rw [ge_iff_le, BitVec.le_def, toNat_ofNat_lt hBw] at hc; omega
  exact ⟨Nat.div_eq_of_lt hlt, Nat.mod_eq_of_lt hlt⟩

theorem add_ofNat_step {w : Nat} (off : BitVec w) (B k : Nat) :
    off + BitVec.ofNat w B + BitVec.ofNat w (B * k) = off + BitVec.ofNat w (B * (k + 1)) := by
  rw [Nat.mul_succ, BitVec.ofNat_add, BitVec.add_assoc, BitVec.add_comm (BitVec.ofNat w B)]

end Urandom
