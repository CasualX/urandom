import Urandom.Lemmas.XoshiroLinear
/- The code-shaped `Xoshiro.jump` (nested loops over the four `JUMP` words) is `ev JUMP`, hence 2^128 steps. -/
namespace Urandom.XoLin
open Urandom.Spec (iter)
open Urandom.GF2
open Urandom.Xoshiro

/-- `(JUMP[i] & (1 << b)) != 0` in the code, `JUMP[i]` being the word at offset `off` of the mask `p` -/
theorem testBit_word (p off b : Nat) (hb : b < 64) :
    ((BitVec.ofNat 64 (p >>> off) &&& (1#64 <<< b)) != 0) = p.testBit (off + b) := by
  rw [← BitVec.twoPow_eq, BitVec.and_twoPow, BitVec.getLsbD_ofNat, Nat.testBit_shiftRight, decide_eq_true hb]
  cases p.testBit (off + b) <;> simp
  exact fun h => absurd (congrArg BitVec.toNat h) (by rw [BitVec.toNat_twoPow_of_lt hb]; exact Nat.ne_of_gt (Nat.two_pow_pos b))

/-- the inner loop over the word at offset `off` is `evLH` restricted to that 64-bit window of `p` -/
theorem evLH_jumpWord (p off : Nat) : ∀ (n b : Nat) (st : S × S), b + n ≤ 64 → ∀ rest : Nat,
    evLH advance p (n + rest) (off + b) st.1 st.2 =
      evLH advance p rest (off + b + n) (jumpWord (BitVec.ofNat 64 (p >>> off)) n b st).1
        (jumpWord (BitVec.ofNat 64 (p >>> off)) n b st).2
  | 0, _, _, _, _ => by simp [jumpWord]
  | n + 1, b, (cur, acc), hb, rest => by
    rw [show n + 1 + rest = (n + rest) + 1 by omega]
    simp only [evLH, jumpWord, jumpBit, testBit_word p off b (by omega)]
    have := evLH_jumpWord p off n (b + 1) (advance cur, if p.testBit (off + b) then acc + cur else acc) (by omega) rest
    rwa [show off + (b + 1) = off + b + 1 by omega, show off + b + 1 + n = off + b + (n + 1) by omega] at this

theorem evLH_foldl_jumpWord (p : Nat) : ∀ (ws : List (BitVec 64)) (off rest : Nat) (st : S × S),
    (∀ i (h : i < ws.length), ws[i] = BitVec.ofNat 64 (p >>> (off + 64 * i))) →
    evLH advance p (64 * ws.length + rest) off st.1 st.2 =
      evLH advance p rest (off + 64 * ws.length) (ws.foldl (fun st w => jumpWord w 64 0 st) st).1
        (ws.foldl (fun st w => jumpWord w 64 0 st) st).2
  | [], _, _, _, _ => by simp
  | w :: ws, off, rest, st, h => by
    obtain rfl : w = BitVec.ofNat 64 (p >>> off) := h 0 (by simp)
    have h1 : evLH advance p (64 + (64 * ws.length + rest)) off st.1 st.2 = _ :=
      evLH_jumpWord p off 64 0 st (by omega) (64 * ws.length + rest)
    have h2 := evLH_foldl_jumpWord p ws (off + 64) rest (jumpWord (BitVec.ofNat 64 (p >>> off)) 64 0 st)
      fun i hi => (h (i + 1) (by simpa using hi)).trans (by congr 2; omega)
    simp only [List.length_cons, List.foldl_cons]
    rw [show 64 * (ws.length + 1) + rest = 64 + (64 * ws.length + rest) by omega, h1.trans h2]
    congr 1; omega

theorem jump_eq_ev (s : S) : jump s = ev advLin JUMP s := by
  rw [← evLH_eq_ev advLin JUMP 256 JUMP_lt s]
  exact (evLH_foldl_jumpWord JUMP JUMPW 0 0 (s, zeroS) (by decide)).symm

theorem jump_eq_pow (s : S) : jump s = iter advance (2 ^ 128) s := by
  rw [jump_eq_ev, ev_JUMP]

end Urandom.XoLin
