import Urandom.Generated.Simd
import Urandom.Lemmas.ChaCha
/-
The translated SIMD programs (`Generated/Simd.lean`, from `src/rng/chacha/{slp,sse2,avx2}.rs`) compute the four ChaCha blocks of the
row-wise model for every state and round count, by reflection.  The machine is generic in its lane type; the kernel runs it on symbolic
lanes (terms over 128 variables, sixteen per block) and so decides three closed facts per program: the code before the loop puts the
rows of the input blocks where the layout table says, one trip round the loop is one double round on all four blocks in that layout,
the code after the loop adds the input blocks and stores the 64 words in order.  Every instruction commutes with every homomorphism of
lanes (`exec_map`) and evaluation of terms is one, so the facts hold for all 32-bit contents; the loop is an induction over the trip count.
The suffix `T` here (`CorrectT`, `ST`, `WT`, `slp_T`) means "on terms", i.e. symbolic lanes, not "translated" as in the module names.
-/
namespace Urandom.Simd
open Urandom.ChaCha

section generic
variable {α : Type} [LaneOps α]

/-- `rol!` as the code writes it: two shifts and an or -/
def rolS (x : α) (l r : Nat) : α := LaneOps.or (LaneOps.shl x l) (LaneOps.shr x r)

def qrS (a b c d : α) : α × α × α × α :=
  let a := LaneOps.add a b; let d := rolS (LaneOps.xor d a) 16 16
  let c := LaneOps.add c d; let b := rolS (LaneOps.xor b c) 12 20
  let a := LaneOps.add a b; let d := rolS (LaneOps.xor d a) 8 24
  let c := LaneOps.add c d; let b := rolS (LaneOps.xor b c) 7 25
  (a, b, c, d)

def dbl (s : St α) : St α := specDouble qrS s

def addG (s t : St α) : St α :=
  ⟨LaneOps.add s.x0 t.x0, LaneOps.add s.x1 t.x1, LaneOps.add s.x2 t.x2, LaneOps.add s.x3 t.x3,
   LaneOps.add s.x4 t.x4, LaneOps.add s.x5 t.x5, LaneOps.add s.x6 t.x6, LaneOps.add s.x7 t.x7,
   LaneOps.add s.x8 t.x8, LaneOps.add s.x9 t.x9, LaneOps.add s.x10 t.x10, LaneOps.add s.x11 t.x11,
   LaneOps.add s.x12 t.x12, LaneOps.add s.x13 t.x13, LaneOps.add s.x14 t.x14, LaneOps.add s.x15 t.x15⟩

def zeroSt : St α :=
  ⟨LaneOps.zero, LaneOps.zero, LaneOps.zero, LaneOps.zero, LaneOps.zero, LaneOps.zero, LaneOps.zero, LaneOps.zero,
   LaneOps.zero, LaneOps.zero, LaneOps.zero, LaneOps.zero, LaneOps.zero, LaneOps.zero, LaneOps.zero, LaneOps.zero⟩

def rowOf (s : St α) (r : Nat) : Vec α := (s.words.drop (4 * r)).take 4

def packReg (S : List (St α)) (segs : List (Nat × Nat)) : Vec α :=
  segs.flatMap fun br => rowOf (S.getD br.1 zeroSt) br.2

/-- the register file when the loop is entered / left: live registers hold rows of the current matrices `S`,
the others rows of the input blocks `W`, as the translator's layout table says; loop-local registers are empty -/
def packRegs (p : Prog) (S W : List (St α)) : List (Vec α) :=
  (List.range p.nRegs).map fun i =>
    if p.loopLocal.contains i then [] else packReg (if p.live.contains i then S else W) (p.layout.getD i [])

def Wof (W : List (St α)) : List (List α) := W.map St.words

def out0 : List α := List.replicate 64 LaneOps.zero

def outOf (S W : List (St α)) : List α := (List.zipWith addG S W).flatMap St.words

end generic

inductive Term where
  | var (i : Nat)
  | zero
  | add (x y : Term)
  | xor (x y : Term)
  | or (x y : Term)
  | shl (x : Term) (k : Nat)
  | shr (x : Term) (k : Nat)
deriving DecidableEq

instance : LaneOps Term := ⟨.zero, .add, .xor, .or, .shl, .shr⟩

def varSt (b : Nat) : St Term :=
  ⟨.var (16 * b), .var (16 * b + 1), .var (16 * b + 2), .var (16 * b + 3), .var (16 * b + 4), .var (16 * b + 5),
   .var (16 * b + 6), .var (16 * b + 7), .var (16 * b + 8), .var (16 * b + 9), .var (16 * b + 10), .var (16 * b + 11),
   .var (16 * b + 12), .var (16 * b + 13), .var (16 * b + 14), .var (16 * b + 15)⟩

def ST : List (St Term) := [varSt 0, varSt 1, varSt 2, varSt 3]
def WT : List (St Term) := [varSt 4, varSt 5, varSt 6, varSt 7]

/-- what the kernel decides for a program, on symbolic lanes -/
structure CorrectT (p : Prog) : Prop where
  pre : clear p.loopLocal (execAll (Wof WT) ⟨List.replicate p.nRegs [], out0⟩ p.pre) = ⟨packRegs p WT WT, out0⟩
  body : p.iter (Wof WT) ⟨packRegs p ST WT, out0⟩ = ⟨packRegs p (ST.map dbl) WT, out0⟩
  post : (execAll (Wof WT) ⟨packRegs p ST WT, out0⟩ p.post).out = outOf ST WT

/-- decided as one evaluation, so that what the three facts share (the register file at loop entry, the input blocks) is computed once -/
instance (p : Prog) : Decidable (CorrectT p) :=
  decidable_of_iff (_ ∧ _ ∧ _) ⟨fun ⟨a, b, c⟩ => ⟨a, b, c⟩, fun h => ⟨h.pre, h.body, h.post⟩⟩

theorem slp_T : CorrectT Gen.slp := by decide +kernel
theorem sse2_T : CorrectT Gen.sse2 := by decide +kernel
theorem avx2_T : CorrectT Gen.avx2 := by decide +kernel

structure Hom {α β : Type} [LaneOps α] [LaneOps β] (f : α → β) : Prop where
  zero : f LaneOps.zero = LaneOps.zero
  add : ∀ x y, f (LaneOps.add x y) = LaneOps.add (f x) (f y)
  xor : ∀ x y, f (LaneOps.xor x y) = LaneOps.xor (f x) (f y)
  or : ∀ x y, f (LaneOps.or x y) = LaneOps.or (f x) (f y)
  shl : ∀ x k, f (LaneOps.shl x k) = LaneOps.shl (f x) k
  shr : ∀ x k, f (LaneOps.shr x k) = LaneOps.shr (f x) k

theorem zipWith_map_hom {γ δ : Type} (f : γ → δ) {g : γ → γ → γ} {g' : δ → δ → δ} (h : ∀ x y, f (g x y) = g' (f x) (f y)) (x y : List γ) :
    List.zipWith g' (x.map f) (y.map f) = (List.zipWith g x y).map f := by
  simp only [List.zipWith_map, List.map_zipWith, h]

section hom
variable {α β : Type} [LaneOps α] [LaneOps β] (f : α → β)

def M.map (m : M α) : M β := ⟨m.regs.map (List.map f), m.out.map f⟩

def stMap (s : St α) : St β :=
  ⟨f s.x0, f s.x1, f s.x2, f s.x3, f s.x4, f s.x5, f s.x6, f s.x7, f s.x8, f s.x9, f s.x10, f s.x11, f s.x12, f s.x13, f s.x14, f s.x15⟩

theorem getD_map_of {γ δ : Type} (g : γ → δ) {d : γ} {d' : δ} (h : g d = d') (l : List γ) (i : Nat) :
    (l.map g).getD i d' = g (l.getD i d) := by
  simp only [List.getD_eq_getElem?_getD, List.getElem?_map]
  cases l[i]? <;> simp [h]

omit [LaneOps α] [LaneOps β] in
theorem getD_map_nil (l : List (List α)) (i : Nat) : (l.map (List.map f)).getD i [] = (l.getD i []).map f :=
  getD_map_of (List.map f) (d := []) rfl l i

theorem getD_map_zero (hf : Hom f) (l : List α) (i : Nat) : (l.map f).getD i LaneOps.zero = f (l.getD i LaneOps.zero) :=
  getD_map_of f hf.zero l i

theorem sexp_map (hf : Hom f) (args : List (Vec α)) (e : SExp) :
    e.eval (args.map (List.map f)) = f (e.eval args) := by
  induction e <;> simp only [SExp.eval, getD_map_nil, getD_map_zero f hf, hf.add, hf.xor, hf.or, hf.shl, hf.shr, *]

theorem shufVec_map (hf : Hom f) (v : Vec α) (imm : Nat) : shufVec (v.map f) imm = (shufVec v imm).map f := by
  simp only [shufVec, List.length_map, List.map_map, Function.comp_def, getD_map_zero f hf]

theorem permSel_map (hf : Hom f) (x y : Vec α) (c : Nat) : permSel (x.map f) (y.map f) c = (permSel x y c).map f := by
  unfold permSel
  split
  · simp [hf.zero]
  · split <;> simp only [List.map_take, List.map_drop]

omit [LaneOps α] [LaneOps β] in
theorem storeAt_map (out : List α) (w : Nat) (v : Vec α) : storeAt (out.map f) w (v.map f) = (storeAt out w v).map f := by
  simp only [storeAt, List.map_append, List.map_take, List.map_drop, List.length_map]

theorem exec_map (hf : Hom f) (W : List (List α)) (m : M α) (i : Instr) :
    exec (W.map (List.map f)) (m.map f) i = (exec W m i).map f := by
  cases i <;>
    simp only [exec, M.map, getD_map_nil, zipWith_map_hom f hf.add, zipWith_map_hom f hf.xor, zipWith_map_hom f hf.or,
      shufVec_map f hf, permSel_map f hf, storeAt_map, ← sexp_map f hf, List.map_map, Function.comp_def, hf.shl, hf.shr,
      List.map_set, List.map_append, List.map_drop, List.map_take]

theorem execAll_map (hf : Hom f) (W : List (List α)) (m : M α) (is : List Instr) :
    execAll (W.map (List.map f)) (m.map f) is = (execAll W m is).map f := by
  induction is generalizing m with
  | nil => rfl
  | cons i is ih => exact (congrArg (execAll _ · is) (exec_map f hf W m i)).trans (ih _)

omit [LaneOps α] [LaneOps β] in
theorem clear_map (locals : List Nat) (m : M α) : clear locals (m.map f) = (clear locals m).map f := by
  induction locals generalizing m with
  | nil => rfl
  | cons r rs ih => simpa only [clear, M.map, List.foldl_cons, List.map_set, List.map_nil] using ih ⟨m.regs.set r [], m.out⟩

theorem iter_map (hf : Hom f) (p : Prog) (W : List (List α)) (m : M α) :
    p.iter (W.map (List.map f)) (m.map f) = (p.iter W m).map f := by
  simp only [Prog.iter, execAll_map f hf, clear_map]

omit [LaneOps α] [LaneOps β] in
theorem words_map (s : St α) : (stMap f s).words = s.words.map f := rfl

omit [LaneOps α] [LaneOps β] in
theorem Wof_map (W : List (St α)) : Wof (W.map (stMap f)) = (Wof W).map (List.map f) := by
  simp only [Wof, List.map_map, Function.comp_def, words_map]

theorem getD_map_zeroSt (hf : Hom f) (S : List (St α)) (i : Nat) : (S.map (stMap f)).getD i zeroSt = stMap f (S.getD i zeroSt) :=
  getD_map_of _ (by simp only [stMap, zeroSt, hf.zero]) S i

theorem packReg_map (hf : Hom f) (S : List (St α)) (segs : List (Nat × Nat)) :
    packReg (S.map (stMap f)) segs = (packReg S segs).map f := by
  simp only [packReg, rowOf, List.map_flatMap, getD_map_zeroSt f hf, words_map, List.map_drop, List.map_take]

theorem packRegs_map (hf : Hom f) (p : Prog) (S W : List (St α)) :
    packRegs p (S.map (stMap f)) (W.map (stMap f)) = (packRegs p S W).map (List.map f) := by
  simp only [packRegs, List.map_map, Function.comp_def, apply_ite (List.map f), List.map_nil, ← packReg_map f hf,
    apply_ite (List.map (stMap f))]

theorem out0_map (hf : Hom f) : (out0 : List α).map f = out0 := by
  simp only [out0, List.map_replicate, hf.zero]

theorem dbl_map (hf : Hom f) (S : List (St α)) : (S.map dbl).map (stMap f) = (S.map (stMap f)).map dbl := by
  simp only [List.map_map, Function.comp_def, dbl, specDouble, qrS, rolS, stMap, hf.add, hf.xor, hf.or, hf.shl, hf.shr]

theorem outOf_map (hf : Hom f) (S W : List (St α)) : (outOf S W).map f = outOf (S.map (stMap f)) (W.map (stMap f)) := by
  have : ∀ s t : St α, stMap f (addG s t) = addG (stMap f s) (stMap f t) := fun s t => by simp only [addG, stMap, hf.add]
  simp only [outOf, List.map_flatMap, zipWith_map_hom (stMap f) this, List.flatMap_map, words_map]

theorem M_map_pack (hf : Hom f) (p : Prog) (S W : List (St α)) :
    (⟨packRegs p S W, out0⟩ : M α).map f = ⟨packRegs p (S.map (stMap f)) (W.map (stMap f)), out0⟩ := by
  simp only [M.map, packRegs_map f hf, out0_map f hf]

theorem M_map_init (hf : Hom f) (n : Nat) : (⟨List.replicate n [], out0⟩ : M α).map f = ⟨List.replicate n [], out0⟩ := by
  simp only [M.map, out0_map f hf, List.map_replicate, List.map_nil]

end hom

def Term.eval (v : Nat → W32) : Term → W32
  | .var i => v i
  | .zero => 0
  | .add x y => x.eval v + y.eval v
  | .xor x y => x.eval v ^^^ y.eval v
  | .or x y => x.eval v ||| y.eval v
  | .shl x k => x.eval v <<< k
  | .shr x k => x.eval v >>> k

theorem eval_hom (v : Nat → W32) : Hom (Term.eval v) := ⟨rfl, fun _ _ => rfl, fun _ _ => rfl, fun _ _ => rfl, fun _ _ => rfl, fun _ _ => rfl⟩

/-- the valuation that reads variable `16 b + i` as word `i` of the `b`-th matrix of a list -/
def val (L : List (St W32)) : Nat → W32 :=
  fun k => ((L.getD (k / 16) zeroSt).words).getD (k % 16) 0

/-- the facts of `CorrectT` for all 32-bit contents (`correct_of_T`): what `run_eq` needs -/
structure Correct (p : Prog) : Prop where
  pre : ∀ w1 w2 w3 w4 : St W32,
    clear p.loopLocal (execAll (Wof [w1, w2, w3, w4]) ⟨List.replicate p.nRegs [], out0⟩ p.pre)
      = ⟨packRegs p [w1, w2, w3, w4] [w1, w2, w3, w4], out0⟩
  body : ∀ s1 s2 s3 s4 w1 w2 w3 w4 : St W32,
    p.iter (Wof [w1, w2, w3, w4]) ⟨packRegs p [s1, s2, s3, s4] [w1, w2, w3, w4], out0⟩
      = ⟨packRegs p [dbl s1, dbl s2, dbl s3, dbl s4] [w1, w2, w3, w4], out0⟩
  post : ∀ s1 s2 s3 s4 w1 w2 w3 w4 : St W32,
    (execAll (Wof [w1, w2, w3, w4]) ⟨packRegs p [s1, s2, s3, s4] [w1, w2, w3, w4], out0⟩ p.post).out
      = outOf [s1, s2, s3, s4] [w1, w2, w3, w4]

/-- symbolic lanes are free -/
theorem exists_hom (s1 s2 s3 s4 w1 w2 w3 w4 : St W32) :
    ∃ f : Term → W32, Hom f ∧ ST.map (stMap f) = [s1, s2, s3, s4] ∧ WT.map (stMap f) = [w1, w2, w3, w4] :=
  ⟨Term.eval (val [s1, s2, s3, s4, w1, w2, w3, w4]), eval_hom _,
    rfl, rfl⟩

theorem correct_of_T (p : Prog) (h : CorrectT p) : Correct p := by
  refine ⟨fun w1 w2 w3 w4 => ?_, fun s1 s2 s3 s4 w1 w2 w3 w4 => ?_, fun s1 s2 s3 s4 w1 w2 w3 w4 => ?_⟩
  · obtain ⟨f, hf, -, hW⟩ := exists_hom w1 w2 w3 w4 w1 w2 w3 w4
    have := congrArg (M.map f) h.pre
    rwa [← clear_map, ← execAll_map _ hf, M_map_init _ hf, M_map_pack _ hf, ← Wof_map, hW] at this
  · obtain ⟨f, hf, hS, hW⟩ := exists_hom s1 s2 s3 s4 w1 w2 w3 w4
    have := congrArg (M.map f) h.body
    rwa [← iter_map _ hf, M_map_pack _ hf, M_map_pack _ hf, ← Wof_map, dbl_map _ hf, hS, hW] at this
  · obtain ⟨f, hf, hS, hW⟩ := exists_hom s1 s2 s3 s4 w1 w2 w3 w4
    have : (M.map f _).out = _ := congrArg (List.map f) h.post
    rwa [← execAll_map _ hf, M_map_pack _ hf, ← Wof_map, outOf_map _ hf, hS, hW] at this

theorem loop_eq (p : Prog) (h : Correct p) (n : Nat) (s1 s2 s3 s4 w1 w2 w3 w4 : St W32) :
    iterN (p.iter (Wof [w1, w2, w3, w4])) n ⟨packRegs p [s1, s2, s3, s4] [w1, w2, w3, w4], out0⟩
      = ⟨packRegs p [iterN dbl n s1, iterN dbl n s2, iterN dbl n s3, iterN dbl n s4] [w1, w2, w3, w4], out0⟩ := by
  induction n generalizing s1 s2 s3 s4 with
  | zero => rfl
  | succ n ih => rw [iterN, h.body, ih]; rfl

theorem run_eq (p : Prog) (h : Correct p) (n : Nat) (w1 w2 w3 w4 : St W32) :
    p.run n (Wof [w1, w2, w3, w4])
      = outOf [iterN dbl n w1, iterN dbl n w2, iterN dbl n w3, iterN dbl n w4] [w1, w2, w3, w4] := by
  show (execAll _ (iterN _ n (clear _ (execAll _ ⟨_, out0⟩ p.pre))) p.post).out = _
  rw [h.pre, loop_eq p h, h.post]

theorem rolS_eq (x : W32) (l : Nat) (hl : l < 32) : rolS x l (32 - l) = x.rotateLeft l := by
  rw [BitVec.rotateLeft_def, Nat.mod_eq_of_lt hl]; rfl

theorem dbl_eq : (dbl : St W32 → St W32) = specDouble qr32 := by
  have : (qrS : W32 → W32 → W32 → W32 → W32 × W32 × W32 × W32) = qr32 := by
    funext a b c d
    simp only [qrS, qr32, ← rolS_eq _ 16 (by decide), ← rolS_eq _ 12 (by decide), ← rolS_eq _ 8 (by decide), ← rolS_eq _ 7 (by decide)]
    rfl
  rw [← this]; rfl

def batchWords (b : St W32 × St W32 × St W32 × St W32) : List W32 :=
  b.1.words ++ b.2.1.words ++ b.2.2.1.words ++ b.2.2.2.words

/-- The headline: a translated program that passes `CorrectT` and has the batch shape of the model (offsets 0..3, step 4, `N / 2` trips)
computes `ChaCha.block`. `Props/C02T.lean` applies it to the three back ends. -/
theorem block_eq (p : Prog) (h : CorrectT p) (hoff : p.ctrOffsets = [0, 1, 2, 3]) (hstep : p.ctrStep = 4) (hdiv : p.loopDiv = 2)
    (N : Nat) (s : State) :
    p.block N s = (batchWords (ChaCha.block N s).1, (ChaCha.block N s).2) := by
  unfold Prog.block
  rw [hoff, hstep, hdiv]
  show (p.run (N / 2) (Wof [(s.addCounter 0#64).getState, (s.addCounter 1).getState, (s.addCounter 2).getState, (s.addCounter 3).getState]), _) = _
  have hout : ∀ a b c d w1 w2 w3 w4 : St W32,
      outOf [a, b, c, d] [w1, w2, w3, w4] = batchWords (addSt a w1, addSt b w2, addSt c w3, addSt d w4) := fun _ _ _ _ _ _ _ _ => rfl
  rw [C02.addCounter_zero, run_eq p (correct_of_T p h), hout]
  simp only [ChaCha.block, C02.rowBlock_eq_spec, specBlockOf, ← dbl_eq]
  rfl

end Urandom.Simd
