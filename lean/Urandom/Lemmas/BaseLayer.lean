import Mathlib.MeasureTheory.Measure.Lebesgue.Basic
import Mathlib.MeasureTheory.Measure.WithDensity
import Urandom.Lemmas.ZigguratLaw
import Urandom.Lemmas.TailLaw
/-
The base layer of the ziggurat (`i == 0`), idealised: `x = u * X[0]`; `x < R` returns `x`, otherwise the tail sampler
runs.  If the table satisfies the tail relation `(X[0] - R) f(R) = ∫_R^∞ f`, the result is the `x`-marginal of a uniform
point of the base layer (rectangle + region under the curve beyond `R`); `ziggurat_law` assumes a uniform point of layer 0,
and the step from this marginal to that hypothesis is not made.  For the exponential density the relation is
`X[0] = R + 1`; the translated table satisfies it to `2^-48` (`C16.exp_table_ok`).
-/

open MeasureTheory Set Real
open scoped ENNReal

namespace Urandom.BaseLayer

open Urandom.TailLaw (unif)

theorem scaled_uniform {x0 : ℝ} (hx0 : 0 < x0) :
    Measure.map (fun u => u * x0) unif = (ENNReal.ofReal x0)⁻¹ • (volume : Measure ℝ).restrict (Ioo 0 x0) := by
  have hpre : (fun u : ℝ => u * x0) ⁻¹' Ioo 0 x0 = Ioo 0 1 := by
    rw [preimage_mul_const_Ioo₀ _ _ hx0, zero_div, div_self hx0.ne']
  rw [unif, ← hpre, ← Measure.restrict_map (measurable_mul_const x0) measurableSet_Ioo, Real.map_volume_mul_right hx0.ne',
    Measure.restrict_smul, abs_of_pos (inv_pos.mpr hx0), ENNReal.ofReal_inv_of_pos hx0]

/-- the height of the base layer over `x > 0`: the rectangle's `f R` up to `R`, the curve beyond -/
noncomputable def height (f : ℝ → ℝ) (R : ℝ) (x : ℝ) : ℝ := if x < R then f R else f x

def baseRegion (f : ℝ → ℝ) (R : ℝ) : Set (ℝ × ℝ) := regionBetween 0 (height f R) (Ioi 0)

theorem map_fst_restrict_baseRegion (f : ℝ → ℝ) (hf : Measurable f) {R : ℝ} (hR : 0 < R) :
    Measure.map Prod.fst ((volume : Measure (ℝ × ℝ)).restrict (baseRegion f R)) =
      ENNReal.ofReal (f R) • (volume : Measure ℝ).restrict (Ioo 0 R) + tail f R := by
  have hdisj : Disjoint (Ioo 0 R) (Ici R) := disjoint_left.2 fun x hx hx2 => not_lt.2 hx2 hx.2
  rw [baseRegion, ZigLaw.map_fst_restrict_regionBetween (height f R) (.ite measurableSet_Iio measurable_const hf) measurableSet_Ioi,
    ← Ioo_union_Ici_eq_Ioi hR, Measure.restrict_union hdisj measurableSet_Ici,
    withDensity_add_measure, tail, ← withDensity_const]
  congr 1 <;> refine withDensity_congr_ae ?_
  · filter_upwards [ae_restrict_mem measurableSet_Ioo] with x hx
    rw [height, if_pos hx.2]
  · filter_upwards [ae_restrict_mem measurableSet_Ici] with x hx
    rw [height, if_neg (not_lt.2 hx)]

/-- `htail` is the table's tail relation: `x0 * f R` is the area of the base layer -/
theorem base_layer_law (f : ℝ → ℝ) (hf : Measurable f) {R x0 : ℝ} (hR : 0 < R) (hx0 : R < x0) (hfR : 0 < f R)
    (htail : tail f R univ = ENNReal.ofReal ((x0 - R) * f R)) :
    (Measure.map (fun u => u * x0) unif).restrict (Iio R) +
        (Measure.map (fun u => u * x0) unif) (Ici R) • ((tail f R univ)⁻¹ • tail f R) =
      (ENNReal.ofReal (x0 * f R))⁻¹ • Measure.map Prod.fst ((volume : Measure (ℝ × ℝ)).restrict (baseRegion f R)) := by
  have hx0pos : 0 < x0 := hR.trans hx0
  have hd : 0 < x0 - R := sub_pos.2 hx0
  -- the rectangle part, and the probability of the tail branch
  have h1 : Iio R ∩ Ioo 0 x0 = Ioo 0 R := by rw [Iio_inter_Ioo, min_eq_left hx0.le]
  have h2 : Ici R ∩ Ioo 0 x0 = Ico R x0 := by
    ext x
    exact ⟨fun h => ⟨h.1, h.2.2⟩, fun h => ⟨h.1, hR.trans_le h.1, h.2⟩⟩
  rw [scaled_uniform hx0pos, map_fst_restrict_baseRegion f hf hR, Measure.restrict_smul, Measure.restrict_restrict measurableSet_Iio, h1,
    Measure.smul_apply, Measure.restrict_apply measurableSet_Ici, h2, Real.volume_Ico, htail, smul_add, smul_smul, smul_smul, smul_eq_mul]
  -- the weights: `1/x0 = f R / (x0 f R)` and `(x0 - R)/x0 / ((x0 - R) f R) = 1 / (x0 f R)`
  have ht {a : ℝ} : ENNReal.ofReal a ≠ ∞ := ENNReal.ofReal_ne_top
  rw [ENNReal.ofReal_mul hx0pos.le, ENNReal.ofReal_mul hd.le, ENNReal.mul_inv (.inr ht) (.inl ht), ENNReal.mul_inv (.inr ht) (.inl ht),
    mul_assoc, ← mul_assoc (ENNReal.ofReal (x0 - R)), ENNReal.mul_inv_cancel (ENNReal.ofReal_pos.2 hd).ne' ht, one_mul,
    mul_assoc, ENNReal.inv_mul_cancel (ENNReal.ofReal_pos.2 hfR).ne' ht, mul_one]

theorem exp_tail_mass {R : ℝ} (hR : 0 ≤ R) : tail (fun x => exp (-x)) R univ = ENNReal.ofReal (exp (-R)) := by
  have := TailLaw.expMeasure_Ici one_pos hR
  rw [one_mul] at this
  rw [← this, tail, withDensity_apply _ .univ, Measure.restrict_univ,
    show ProbabilityTheory.expMeasure 1 = volume.withDensity (ProbabilityTheory.exponentialPDF 1) from rfl, withDensity_apply _ measurableSet_Ici]
  refine setLIntegral_congr_fun measurableSet_Ici fun x hx => ?_
  rw [ProbabilityTheory.exponentialPDF_of_nonneg (hR.trans hx), one_mul, one_mul]

end Urandom.BaseLayer
