import Urandom.Model.UniformInt
import Urandom.Lemmas.BitVecNat
/-
`UniformInt::sample` on bit vectors, generic in the value width and the word width: `iterBV` is the shape every translated
`sample_iter_<T>` (Generated/ScalarUniformInt.lean) has, and `iterBV_model` says it is the model's `iteration`.  Used by Props/C04T.
-/
namespace Urandom.UniformIntT

/-- `$wmul(a, b)`: the widening multiply, generic in the word width (the translated `wmul32` / `wmul64` are the instances 32, 64) -/
def wmul (L : Nat) (a b : BitVec L) : BitVec L × BitVec L :=
  let full := a.setWidth (L + L) * b.setWidth (L + L)
  ((full >>> L).setWidth L, (full &&& BitVec.ofNat (L + L) (2 ^ L - 1)).setWidth L)

/-- one trip round the loop of `sample`, generic in the value width `N` and the word width `L` -/
def iterBV (N L : Nat) (base : BitVec N) (range zone value : BitVec L) : Sum (BitVec N) (BitVec L) :=
  if range == 0#L then .inl (value.setWidth N)
  else
    let p := wmul L value range
    if p.2 ≥ zone then .inl (base + p.1.setWidth N)
    else if zone == range then
      let zone' := (0#L - range) % range
      if p.2 ≥ zone' then .inl (base + p.1.setWidth N) else .inr zone'
    else .inr zone

theorem wmul_toNat (L : Nat) (a b : BitVec L) :
    (wmul L a b).1.toNat = a.toNat * b.toNat / 2 ^ L ∧ (wmul L a b).2.toNat = a.toNat * b.toNat % 2 ^ L := by
  have ha := a.isLt
  have hb := b.isLt
  have hpow : 2 ^ (L + L) = 2 ^ L * 2 ^ L := Nat.pow_add 2 L L
  have hab : a.toNat * b.toNat < 2 ^ L * 2 ^ L := Nat.mul_lt_mul'' ha hb
  have hLle : 2 ^ L ≤ 2 ^ (L + L) := Nat.pow_le_pow_right (by decide) (by omega)
  have hfull : (a.setWidth (L + L) * b.setWidth (L + L)).toNat = a.toNat * b.toNat := by
    rw [BitVec.toNat_mul, BitVec.toNat_setWidth, BitVec.toNat_setWidth,
      Nat.mod_eq_of_lt (Nat.lt_of_lt_of_le ha hLle), Nat.mod_eq_of_lt (Nat.lt_of_lt_of_le hb hLle), hpow, Nat.mod_eq_of_lt hab]
  constructor
  · show (((a.setWidth (L + L) * b.setWidth (L + L)) >>> L).setWidth L).toNat = _
    rw [BitVec.toNat_setWidth, BitVec.toNat_ushiftRight, hfull, Nat.shiftRight_eq_div_pow]
    apply Nat.mod_eq_of_lt
    exact Nat.div_lt_of_lt_mul hab
  · show (((a.setWidth (L + L) * b.setWidth (L + L)) &&& BitVec.ofNat (L + L) (2 ^ L - 1)).setWidth L).toNat = _
    rw [BitVec.toNat_setWidth, BitVec.toNat_and, hfull, BitVec.toNat_ofNat,
      Nat.mod_eq_of_lt (by omega : 2 ^ L - 1 < 2 ^ (L + L)), Nat.and_two_pow_sub_one_eq_mod, Nat.mod_mod]

/-- the model's outcome of one trip (`inl` a result pattern, `inr` the next zone) as the bit vectors the translated code returns -/
def liftR (N L : Nat) : Nat ⊕ Nat → Sum (BitVec N) (BitVec L)
  | .inl r => .inl (BitVec.ofNat N r)
  | .inr z => .inr (BitVec.ofNat L z)

theorem ofNat_beq (L a b : Nat) (ha : a < 2 ^ L) (hb : b < 2 ^ L) : (BitVec.ofNat L a == BitVec.ofNat L b) = decide (a = b) := by
  rw [Bool.eq_iff_iff, beq_iff_eq, decide_eq_true_iff, ← BitVec.toNat_inj, toNat_ofNat_lt ha, toNat_ofNat_lt hb]

theorem iterBV_model (t : IntTy) (hNL : t.bits ≤ t.wbits) (d : UniformInt) (hr : d.range < 2 ^ t.bits)
    (zone v : Nat) (hz : zone < 2 ^ t.wbits) (hv : v < 2 ^ t.wbits) :
    iterBV t.bits t.wbits (BitVec.ofNat t.bits d.base) (BitVec.ofNat t.wbits d.range) (BitVec.ofNat t.wbits zone) (BitVec.ofNat t.wbits v)
      = liftR t.bits t.wbits (UniformInt.iteration t d zone v) := by
  -- three correspondences between the bit vectors of one trip and the model's naturals: the result (`hres`), a comparison of the
  -- low product word with a zone (`hge`), the first zone `2^L mod range` computed as `(0 - range) % range` (`hzone'`); with them
  -- both sides take the same branches
  have hrL : d.range < 2 ^ t.wbits := Nat.lt_of_lt_of_le hr (Nat.pow_le_pow_right (by decide) hNL)
  obtain ⟨hm1, hm2⟩ := wmul_toNat t.wbits (BitVec.ofNat t.wbits v) (BitVec.ofNat t.wbits d.range)
  rw [toNat_ofNat_lt hv, toNat_ofNat_lt hrL] at hm1 hm2
  have hres : BitVec.ofNat t.bits d.base + (wmul t.wbits (BitVec.ofNat t.wbits v) (BitVec.ofNat t.wbits d.range)).1.setWidth t.bits
      = BitVec.ofNat t.bits (wadd t.M d.base (v * d.range / t.B % t.M)) := by
    apply BitVec.eq_of_toNat_eq
    rw [BitVec.toNat_add, BitVec.toNat_setWidth, hm1, BitVec.toNat_ofNat, BitVec.toNat_ofNat]
    simp only [wadd, IntTy.M, IntTy.B]
    rw [Nat.mod_mod, Nat.add_mod, Nat.mod_mod, ← Nat.add_mod]
  have hge : ∀ z : Nat, z < 2 ^ t.wbits →
      (((wmul t.wbits (BitVec.ofNat t.wbits v) (BitVec.ofNat t.wbits d.range)).2 ≥ BitVec.ofNat t.wbits z) ↔ (v * d.range % t.B ≥ z)) := by
    intro z hzz
    rw [ge_iff_le, BitVec.le_def, hm2, toNat_ofNat_lt hzz]; rfl
  unfold iterBV UniformInt.iteration
  rw [ofNat_beq _ _ 0 hrL (Nat.two_pow_pos _), ofNat_beq _ _ _ hz hrL]
  by_cases h0 : d.range = 0
  · simp only [h0, decide_true, if_true, liftR]
    congr 1
    apply BitVec.eq_of_toNat_eq
    rw [BitVec.toNat_setWidth, toNat_ofNat_lt hv, BitVec.toNat_ofNat]; exact (Nat.mod_mod _ _).symm
  · have hpos : 0 < d.range := Nat.pos_of_ne_zero h0
    have hz' : (t.B - d.range) % d.range < 2 ^ t.wbits := Nat.lt_trans (Nat.mod_lt _ hpos) hrL
    have hzone' : (0#t.wbits - BitVec.ofNat t.wbits d.range) % BitVec.ofNat t.wbits d.range
        = BitVec.ofNat t.wbits ((t.B - d.range) % d.range) := by
      apply BitVec.eq_of_toNat_eq
      rw [BitVec.toNat_umod, BitVec.toNat_sub, toNat_ofNat_lt hrL, toNat_ofNat_lt hz']
      simp only [IntTy.B, BitVec.toNat_ofNat, Nat.zero_mod, Nat.add_zero]
      rw [Nat.mod_eq_of_lt (by omega : 2 ^ t.wbits - d.range < 2 ^ t.wbits)]
    simp only [h0, decide_false, if_false, Bool.false_eq_true, hzone', hge zone hz, hge _ hz', hres, decide_eq_true_eq]
    split
    · rfl
    · split
      · split <;> rfl
      · rfl

end Urandom.UniformIntT
