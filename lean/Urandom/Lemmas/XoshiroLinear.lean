import Urandom.Lemmas.GF2Order
/-
xoshiro256 as a linear map over GF(2): the state transition is additive, its characteristic
polynomial `P` annihilates it (checked by the kernel on the 256 unit states and lifted by
linearity), and `JUMP ≡ x^(2^128) (mod P)`, so that `ev JUMP` is 2^128 steps.  The first part (`evLH`, `bv_lift`) is
about any XOR space, not about xoshiro.
-/
namespace Urandom.XoLin
open Urandom.Spec (iter)
open Urandom.GF2 Urandom.GF2.XSpace
open Urandom.Xoshiro

variable {V : Type} [XSpace V]

instance : XSpace S where
  add a b := xorS a b
  zero := zeroS
  add_assoc' a b c := by cases a; cases b; cases c; simp only [HAdd.hAdd, xorS, BitVec.xor_assoc]
  add_comm' a b := by
    cases a; cases b; simp only [HAdd.hAdd, xorS]
    congr 1 <;> exact BitVec.xor_comm _ _
  add_zero' a := by
    cases a; simp only [HAdd.hAdd, OfNat.ofNat, xorS, zeroS]; simp
  add_self' a := by
    cases a; simp only [HAdd.hAdd, OfNat.ofNat, xorS, zeroS]; simp

theorem S.add_def (a b : S) : a + b = ⟨a.s0 ^^^ b.s0, a.s1 ^^^ b.s1, a.s2 ^^^ b.s2, a.s3 ^^^ b.s3⟩ := rfl
theorem S.zero_def : (0 : S) = ⟨0, 0, 0, 0⟩ := rfl

theorem rotl_xor (a b : BitVec 64) (k : Nat) : (a ^^^ b).rotateLeft k = a.rotateLeft k ^^^ b.rotateLeft k := by
  ext i hi
  simp
  split <;> simp

theorem advanceK_add (k r : Nat) (a b : S) : advanceK k r (a + b) = advanceK k r a + advanceK k r b := by
  simp only [S.add_def, advanceK, BitVec.shiftLeft_xor_distrib, rotl_xor, S.mk.injEq]
  refine ⟨?_, ?_, ?_, ?_⟩ <;> ac_rfl

def advLin : Lin S := ⟨advance, advanceK_add 17 45⟩

/-- `ev` from the low bit up, as a loop the kernel can run; also the shape of the code's `jump` -/
def evLH (f : V → V) (p : Nat) : Nat → Nat → V → V → V
  | 0, _, _, acc => acc
  | n+1, i, cur, acc => evLH f p n (i+1) (f cur) (if p.testBit i then acc + cur else acc)

theorem evLH_spec (T : Lin V) (p : Nat) : ∀ (n i : Nat) (cur acc : V), p >>> i < 2 ^ n →
    evLH T.f p n i cur acc = acc + ev T (p >>> i) cur := by
  intro n
  induction n with
  | zero =>
    intro i cur acc h
    have : p >>> i = 0 := by simpa using h
    simp [evLH, this, ev_zero, add_zero']
  | succ n ih =>
    intro i cur acc h
    unfold evLH
    have h' : p >>> (i + 1) < 2 ^ n := by
      rw [Nat.shiftRight_succ]; rw [Nat.pow_succ] at h; omega
    rw [ih (i+1) _ _ h', ev_comm_T, ev_shiftRight_step T p i cur]
    split
    · ac_rfl
    · rw [zero_add']

theorem evLH_eq_ev (T : Lin V) (p n : Nat) (hp : p < 2 ^ n) (s : V) : evLH T.f p n 0 s 0 = ev T p s := by
  rw [evLH_spec T p n 0 s 0 (by simpa using hp)]; simp [zero_add']

def lowMask (k : Nat) : BitVec 64 := BitVec.allOnes 64 >>> (64 - k)

theorem getElem_lowMask (k i : Nat) (hi : i < 64) : (lowMask k)[i] = decide (i < k) := by
  simp only [lowMask, BitVec.getElem_ushiftRight, BitVec.getLsbD_allOnes]
  by_cases h : i < k <;> simp [h] <;> omega

theorem and_lowMask_succ (x : BitVec 64) (k : Nat) (hk : k < 64) :
    x &&& lowMask (k+1) = (x &&& lowMask k) ^^^ (if x[k] then BitVec.twoPow 64 k else 0) := by
  ext i hi
  simp only [BitVec.getElem_and, BitVec.getElem_xor, getElem_lowMask _ _ hi]
  by_cases hik : i = k
  · subst hik; cases x[i] <;> simp
  · have : (i < k + 1) = (i < k) := by simp; omega
    cases x[k] <;> simp [this, hik]

theorem additive_zero (g : BitVec 64 → V) (hadd : ∀ a b, g (a ^^^ b) = g a + g b) : g 0 = 0 :=
  eq_zero_of_eq_add_self (by have h := hadd 0 0; rwa [BitVec.xor_self] at h)

theorem bv_lift (g : BitVec 64 → V) (hadd : ∀ a b, g (a ^^^ b) = g a + g b)
    (h0 : ∀ j, j < 64 → g (BitVec.twoPow 64 j) = 0) (x : BitVec 64) : g x = 0 := by
  have key : ∀ k, k ≤ 64 → g (x &&& lowMask k) = 0 := by
    intro k
    induction k with
    | zero => intro _; rw [show lowMask 0 = 0#64 by decide, BitVec.and_zero]; exact additive_zero g hadd
    | succ k ih =>
      intro hk
      rw [and_lowMask_succ x k (by omega), hadd, ih (by omega)]
      split
      · rw [h0 k (by omega), add_zero']
      · rw [additive_zero g hadd, add_zero']
  have := key 64 (by omega)
  rwa [show lowMask 64 = BitVec.allOnes 64 by decide, BitVec.and_allOnes] at this

/-- the characteristic polynomial of `advance` as a bit mask, found by Berlekamp-Massey on an output bit sequence
(`tools/certs/xo.py`); that it annihilates `advance` is `P_annihilates_all` -/
def P : Nat := 0x10003c03c3f3ecb1904b4edcf26259f850280002bcefd1a5e9d116f2bb0f0f001
/-- the four words of `Xoshiro.JUMPW` as one mask, low word first (checked in `jump_eq_ev`) -/
def JUMP : Nat := 0x39abdc4529b1661ca9582618e03fc9aad5a61266f0c9392c180ec6d33cfd0aba

def word (k : Nat) (x : BitVec 64) : S :=
  ⟨if k = 0 then x else 0, if k = 1 then x else 0, if k = 2 then x else 0, if k = 3 then x else 0⟩

theorem S.decomp (s : S) : s = word 0 s.s0 + word 1 s.s1 + word 2 s.s2 + word 3 s.s3 := by
  cases s; simp [word, S.add_def]

theorem word_add (k : Nat) (a b : BitVec 64) : word k (a ^^^ b) = word k a + word k b := by
  simp only [word]; congr <;> split <;> simp

/-! The kernel runs `P(T)` on the 256 unit states over plain naturals, in its own `Nat` primitives, which is much less
work than the same run over `BitVec 64`; `W4.toS` carries the result over. -/

/-- four state words as naturals, of which only the low 64 bits count -/
structure W4 where
  (a b c d : Nat)
deriving DecidableEq

instance : XSpace W4 where
  add x y := ⟨Nat.xor x.a y.a, Nat.xor x.b y.b, Nat.xor x.c y.c, Nat.xor x.d y.d⟩
  zero := ⟨0, 0, 0, 0⟩
  add_assoc' x y z := by show W4.mk .. = W4.mk ..; congr 1 <;> apply Nat.xor_assoc
  add_comm' x y := by show W4.mk .. = W4.mk ..; congr 1 <;> apply Nat.xor_comm
  add_zero' x := by show W4.mk .. = x; congr 1 <;> apply Nat.xor_zero
  add_self' x := by show W4.mk .. = W4.mk ..; congr 1 <;> apply Nat.xor_self

def W4.toS (x : W4) : S := ⟨BitVec.ofNat 64 x.a, BitVec.ofNat 64 x.b, BitVec.ofNat 64 x.c, BitVec.ofNat 64 x.d⟩

/-- `Xoshiro.advance` (`advanceK 17 45`) on naturals: `18446744073709551616 = 2^64` cuts the left shifts to 64 bits, `19 = 64 - 45`
is the right half of the rotation -/
def W4.advance (x : W4) : W4 :=
  let c := Nat.xor x.c x.a
  let d := Nat.xor x.d x.b
  ⟨Nat.xor x.a d, Nat.xor x.b c, Nat.xor c (Nat.mod (Nat.shiftLeft x.b 17) 18446744073709551616),
    Nat.lor (Nat.mod (Nat.shiftLeft d 45) 18446744073709551616) (Nat.shiftRight (Nat.mod d 18446744073709551616) 19)⟩

theorem W4.toS_add (x y : W4) : (x + y).toS = x.toS + y.toS := by
  simp only [W4.toS, S.add_def, ← BitVec.ofNat_xor]; rfl

theorem W4.toS_advance (x : W4) : x.advance.toS = Xoshiro.advance x.toS := by
  have hl (y k : Nat) : BitVec.ofNat 64 (y <<< k % 2 ^ 64) = BitVec.ofNat 64 y <<< k := by
    apply BitVec.eq_of_toNat_eq
    simp [Nat.shiftLeft_eq]
  have hr (y k : Nat) : BitVec.ofNat 64 ((y % 2 ^ 64) >>> k) = BitVec.ofNat 64 y >>> k := by
    apply BitVec.eq_of_toNat_eq
    exact Nat.mod_eq_of_lt (Nat.lt_of_le_of_lt (Nat.shiftRight_le ..) (Nat.mod_lt _ (Nat.two_pow_pos 64)))
  show (⟨BitVec.ofNat 64 (x.a ^^^ (x.d ^^^ x.b)), BitVec.ofNat 64 (x.b ^^^ (x.c ^^^ x.a)),
    BitVec.ofNat 64 (x.c ^^^ x.a ^^^ x.b <<< 17 % 2 ^ 64),
    BitVec.ofNat 64 ((x.d ^^^ x.b) <<< 45 % 2 ^ 64 ||| ((x.d ^^^ x.b) % 2 ^ 64) >>> 19)⟩ : S) = _
  simp only [BitVec.ofNat_xor, BitVec.ofNat_or, hl, hr]
  rfl

theorem evLH_toS (p : Nat) : ∀ (n i : Nat) (cur acc : W4),
    evLH Xoshiro.advance p n i cur.toS acc.toS = (evLH W4.advance p n i cur acc).toS
  | 0, _, _, _ => rfl
  | n + 1, i, cur, acc => by
    simp only [evLH]
    rw [← W4.toS_advance, ← evLH_toS p n]
    split <;> simp [W4.toS_add]

theorem P_lt : P < 2 ^ (256 + 1) := by decide +kernel
theorem P_top : P.testBit 256 = true := by decide

def W4.unit (k j : Nat) : W4 :=
  ⟨if k = 0 then 2 ^ j else 0, if k = 1 then 2 ^ j else 0, if k = 2 then 2 ^ j else 0, if k = 3 then 2 ^ j else 0⟩

theorem W4.toS_unit (k j : Nat) : (W4.unit k j).toS = word k (BitVec.twoPow 64 j) := by
  have h : BitVec.ofNat 64 (2 ^ j) = BitVec.twoPow 64 j := by apply BitVec.eq_of_toNat_eq; simp
  simp only [W4.toS, W4.unit, word]; congr <;> split <;> simp [h]

theorem basisCheck_ok : ∀ k < 4, ∀ j < 64, evLH W4.advance P 257 0 (W4.unit k j) 0 = 0 := by decide +kernel

theorem P_annihilates_all (s : S) : ev advLin P s = 0 := by
  have h (k : Nat) (hk : k < 4) (x : BitVec 64) : ev advLin P (word k x) = 0 := by
    refine bv_lift (fun x => ev advLin P (word k x)) (fun a b => by simp only [word_add, ev_add]) (fun j hj => ?_) x
    have := congrArg W4.toS (basisCheck_ok k hk j hj)
    rw [← evLH_toS, W4.toS_unit] at this
    exact (evLH_eq_ev advLin P (256 + 1) P_lt _).symm.trans this
  rw [S.decomp s, ev_add, ev_add, ev_add, h 0 (by omega), h 1 (by omega), h 2 (by omega), h 3 (by omega)]
  simp [add_zero']

theorem xo_ann : Annihilates advLin P 256 := ⟨P_annihilates_all, P_top, P_lt⟩

theorem jump_poly : sqIter P 256 128 2 = JUMP := by rw [sqIter_eq_fast]; decide +kernel

theorem ev_JUMP (s : S) : ev advLin JUMP s = iter advance (2 ^ 128) s := by
  rw [← jump_poly]; exact sqIter_two advLin xo_ann (by omega) 128 s

theorem JUMP_lt : JUMP < 2 ^ 256 := by decide

end Urandom.XoLin
