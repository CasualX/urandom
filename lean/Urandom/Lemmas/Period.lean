import Mathlib.Dynamics.PeriodicPts.Lemmas
import Mathlib.Data.List.Prime
import Mathlib.Algebra.Order.BigOperators.GroupWithZero.List
import Mathlib.Tactic.Ring
import Urandom.Lemmas.GF2Order
import Urandom.Lemmas.Iterate
/- Three general facts (a minimal period from prime quotients, disjoint segments of one period, a product of distinct primes
as a divisor) and the bridge from an order certificate over GF(2) (`orderCheck`) to a minimal period. -/

open Function

theorem minimalPeriod_eq_of_prime_quotients {α : Type} (f : α → α) (x : α) (N : ℕ) (hN : 0 < N)
    (hper : IsPeriodicPt f N x)
    (hq : ∀ q : ℕ, q.Prime → q ∣ N → ¬ IsPeriodicPt f (N / q) x) :
    minimalPeriod f x = N := by
  obtain ⟨m, hm⟩ := hper.minimalPeriod_dvd
  by_cases h1 : m = 1
  · rw [hm, h1, Nat.mul_one]
  · exfalso
    obtain ⟨q, hqp, m', rfl⟩ := Nat.exists_prime_and_dvd h1
    refine hq q hqp ⟨minimalPeriod f x * m', by rw [hm]; ring⟩ ?_
    have : N / q = minimalPeriod f x * m' := by
      rw [hm, Nat.mul_left_comm, Nat.mul_div_cancel_left _ hqp.pos]
    rw [this]
    exact (isPeriodicPt_minimalPeriod f x).mul_const m'

open Urandom Urandom.GF2 in
theorem minimalPeriod_of_orderCheck {V : Type} [XSpace V] (T : Lin V) {P d : ℕ} (hA : Annihilates T P d) (hd : 2 ≤ d)
    (cs : List (ℕ × ℕ)) (hp : ∀ c ∈ cs, c.1.Prime) (hok : orderCheck P d cs 2 = true) (s : V) (hs : s ≠ 0) :
    minimalPeriod T.f s = (cs.map (·.1)).prod := by
  obtain ⟨hper, hno⟩ := orderCheck_sound T hA (by omega) cs 2 1 (Nat.pow_lt_pow_right (by omega : 1 < 2) hd) (ev_two T) hok
  simp only [Nat.one_mul, iter_eq_iterate] at hper hno
  refine minimalPeriod_eq_of_prime_quotients _ _ _ (List.prod_pos ?_) (hper s) fun q hq hqd h => ?_
  · simpa using fun c u hc => (hp (c, u) hc).pos
  · have := mem_list_primes_of_dvd_prod hq.prime (L := cs.map (·.1)) (by simpa using fun c u hc => (hp (c, u) hc).prime) hqd
    obtain ⟨c, hc, rfl⟩ := List.mem_map.1 this
    exact hs (hno c hc s h)

theorem iterate_segments_ne {α : Type} {f : α → α} {x : α} {N : ℕ} (hp : minimalPeriod f x = N) (K i j a b : ℕ)
    (hij : i < j) (hj : (j + 1) * K ≤ N) (ha : a < K) (hb : b < K) : f^[i * K + a] x ≠ f^[j * K + b] x := by
  have hlt : (i + 1) * K ≤ j * K := Nat.mul_le_mul_right K hij
  rw [Nat.add_mul] at hlt hj
  intro h
  have := (iterate_eq_iterate_iff_of_lt_minimalPeriod (by omega) (by omega)).1 h
  omega

theorem List.prod_dvd_of_primes {l : List ℕ} (hp : ∀ p ∈ l, p.Prime) (hn : l.Nodup) {m : ℕ} (h : ∀ p ∈ l, p ∣ m) :
    l.prod ∣ m := by
  induction l with
  | nil => simp
  | cons p l ih =>
    rw [List.forall_mem_cons] at hp h
    refine Nat.Coprime.mul_dvd_of_dvd_of_dvd ((Nat.Prime.coprime_iff_not_dvd hp.1).2 fun hd => ?_) h.1 (ih hp.2 hn.of_cons h.2)
    exact (List.nodup_cons.1 hn).1 (mem_list_primes_of_dvd_prod hp.1.prime (fun q hq => (hp.2 q hq).prime) hd)
