import Mathlib.Algebra.Order.Field.Power
import Mathlib.Tactic.Linarith
import Mathlib.Tactic.Positivity
import Mathlib.Tactic.Ring
import Mathlib.Tactic.NormNum
import Urandom.Model.IEEE
/-
The order of the IEEE model in terms of exact rational values: `finLt` / `finEq` (comparison of
aligned integers) are `<` / `=` of the rationals `±m·2^e`.
-/
namespace Urandom.IEEE

/-- the exact value of a finite `Val` -/
def rval (s : Bool) (m : ℕ) (e : ℤ) : ℚ := (if s then -1 else 1) * (m : ℚ) * (2 : ℚ) ^ e

/-- the aligned integer used by `finLt` / `finEq`, as a rational: `value · 2^(-e0)` -/
theorem aligned_eq (s : Bool) (m : ℕ) (e e0 : ℤ) (h : e0 ≤ e) :
    (((if s then -1 else 1 : ℤ) * ((m <<< (e - e0).toNat : ℕ) : ℤ) : ℤ) : ℚ) = rval s m e * (2 : ℚ) ^ (-e0) := by
  -- `e = e0 + k`: the shift is by `k`, and `2^e · 2^(-e0) = 2^k`
  obtain ⟨k, rfl⟩ := Int.le.dest h
  have h2 : (2 : ℚ) ^ (e0 + k) * 2 ^ (-e0) = 2 ^ k := by
    rw [← zpow_add₀ two_ne_zero, add_neg_cancel_comm, zpow_natCast]
  rw [show (e0 + k - e0).toNat = k by omega, rval, mul_assoc, h2, Nat.shiftLeft_eq]
  cases s <;> simp

theorem finLt_iff (s : Bool) (m : ℕ) (e : ℤ) (t : Bool) (n : ℕ) (g : ℤ) :
    Val.finLt s m e t n g = true ↔ rval s m e < rval t n g := by
  unfold Val.finLt
  simp only [decide_eq_true_eq]
  have hp : (0 : ℚ) < (2 : ℚ) ^ (-(min e g)) := by positivity
  rw [← Int.cast_lt (R := ℚ), aligned_eq s m e (min e g) (min_le_left _ _), aligned_eq t n g (min e g) (min_le_right _ _)]
  exact mul_lt_mul_iff_left₀ hp

theorem finEq_iff (s : Bool) (m : ℕ) (e : ℤ) (t : Bool) (n : ℕ) (g : ℤ) :
    Val.finEq s m e t n g = true ↔ rval s m e = rval t n g := by
  unfold Val.finEq
  simp only [decide_eq_true_eq]
  have hp : (2 : ℚ) ^ (-(min e g)) ≠ 0 := by positivity
  rw [← Int.cast_inj (α := ℚ), aligned_eq s m e (min e g) (min_le_left _ _), aligned_eq t n g (min e g) (min_le_right _ _)]
  exact mul_left_inj' hp

/-- NaN and the infinities have none -/
def Val.toRat? : Val → Option ℚ
  | .fin s m e => some (rval s m e)
  | _ => none

theorem le_fin_iff (s : Bool) (m : ℕ) (e : ℤ) (t : Bool) (n : ℕ) (g : ℤ) :
    Val.le (.fin s m e) (.fin t n g) = true ↔ rval s m e ≤ rval t n g := by
  simp only [Val.le, Val.lt, Val.eq, Bool.or_eq_true, finLt_iff, finEq_iff]
  exact le_iff_lt_or_eq.symm

theorem rval_false (m : ℕ) (e : ℤ) : rval false m e = (m : ℚ) * (2 : ℚ) ^ e := by
  rw [rval, if_neg Bool.false_ne_true, one_mul]

theorem rval_pos (m : ℕ) (e : ℤ) (h : 0 < m) : 0 < rval false m e := by
  rw [rval_false]; positivity

/-- sign bit set: the value is `≤ 0` -/
theorem rval_neg_le (m : ℕ) (e : ℤ) : rval true m e ≤ 0 := by
  unfold rval
  have : (0 : ℚ) ≤ (m : ℚ) * (2 : ℚ) ^ e := by positivity
  simpa only [↓reduceIte, neg_mul, one_mul, Left.neg_nonpos_iff] using this

theorem rval_zero (s : Bool) (e : ℤ) : rval s 0 e = 0 := by unfold rval; simp

/-- the largest value of one binade is below the smallest of the next -/
theorem rval_lt_of_exp_lt (w : ℕ) (m n : ℕ) (e g : ℤ) (hm : m < 2 ^ (w + 1)) (hn : 2 ^ w ≤ n) (h : e < g) :
    rval false m e < rval false n g := by
  rw [rval_false, rval_false]
  have h1 : (m : ℚ) < 2 ^ (w + 1) := by exact_mod_cast hm
  have h2 : (2 : ℚ) ^ w ≤ n := by exact_mod_cast hn
  calc (m : ℚ) * 2 ^ e < 2 ^ (w + 1) * 2 ^ e := mul_lt_mul_of_pos_right h1 (by positivity)
    _ = 2 ^ w * 2 ^ (e + 1) := by rw [zpow_add_one₀ (by norm_num)]; ring
    _ ≤ 2 ^ w * 2 ^ g := by gcongr; norm_num; omega
    _ ≤ n * 2 ^ g := by gcongr

theorem rval_le_rval_iff (m n : ℕ) (e : ℤ) : rval false m e ≤ rval false n e ↔ m ≤ n := by
  rw [rval_false, rval_false, mul_le_mul_iff_left₀ (by positivity)]
  exact Nat.cast_le

/- `Val.le` as an order: NaN is related to nothing, `-inf` and `+inf` are the ends. -/

theorem Val.neg_inf_le (c : Val) : Val.le (.inf true) c = !c.isNaN := by
  rcases c with _ | u | _ <;> simp [Val.le, Val.lt, Val.eq, Val.isNaN]
theorem Val.le_pos_inf (a : Val) : a.le (.inf false) = !a.isNaN := by
  rcases a with _ | s | _ <;> simp [Val.le, Val.lt, Val.eq, Val.isNaN]
theorem Val.le_neg_inf {a : Val} (h : a.le (.inf true) = true) : a = .inf true := by
  rcases a with _ | s | _ <;> simp_all [Val.le, Val.lt, Val.eq]
theorem Val.pos_inf_le {c : Val} (h : Val.le (.inf false) c = true) : c = .inf false := by
  rcases c with _ | u | _ <;> simp_all [Val.le, Val.lt, Val.eq]

theorem Val.le_not_nan {a b : Val} (h : a.le b = true) : a.isNaN = false ∧ b.isNaN = false := by
  rcases a with _ | s | _ <;> rcases b with _ | t | _ <;> simp_all [Val.le, Val.lt, Val.eq, Val.isNaN]

theorem Val.le_trans {a b c : Val} (hab : a.le b = true) (hbc : b.le c = true) : a.le c = true := by
  have ha := (Val.le_not_nan hab).1
  have hc := (Val.le_not_nan hbc).2
  rcases b with _ | t | ⟨t, n, g⟩
  · cases (Val.le_not_nan hab).2
  · -- through an infinity: `c = +inf`, or `a = -inf`
    cases t
    · rw [Val.pos_inf_le hbc, Val.le_pos_inf, ha]; rfl
    · rw [Val.le_neg_inf hab, Val.neg_inf_le, hc]; rfl
  · rcases a with _ | s | ⟨s, m, e⟩
    · cases ha
    · have : s = true := by simpa [Val.le, Val.lt, Val.eq] using hab
      rw [this, Val.neg_inf_le, hc]; rfl
    · rcases c with _ | u | ⟨u, k, h⟩
      · cases hc
      · have : u = false := by simpa [Val.le, Val.lt, Val.eq] using hbc
        rw [this, Val.le_pos_inf]; rfl
      · rw [le_fin_iff] at hab hbc ⊢
        exact _root_.le_trans hab hbc

end Urandom.IEEE
