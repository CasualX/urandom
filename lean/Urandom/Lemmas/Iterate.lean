import Mathlib.Logic.Function.Iterate
import Urandom.Lemmas.Iter
/- `Spec.iter` is Mathlib's `f^[n]`. -/

theorem Urandom.iter_eq_iterate {α : Type} (f : α → α) (n : ℕ) (s : α) : Urandom.Spec.iter f n s = f^[n] s := by
  induction n generalizing s with
  | zero => rfl
  | succ n ih => exact ih (f s)
