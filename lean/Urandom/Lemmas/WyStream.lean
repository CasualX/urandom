import Urandom.Lemmas.Iterate
import Urandom.Lemmas.Word
/-
Wyrand: two different seeds give different OUTPUT streams.

The state walks the whole of Z/2^64 in steps of the odd constant `P0`, so two streams that agree
forever make the output map `f x = rapidMix (x ^^^ P1) x` periodic with period `d = b - a ≠ 0`.
The periods of a map on Z/2^64 form a subgroup; every non-trivial subgroup of that cyclic 2-group
contains `2^63`; and `f 0 ≠ f 2^63` by evaluation.
-/
namespace Urandom.WyStream

/-- the output map of Wyrand as a function of the (already advanced) state -/
def f (x : BitVec 64) : BitVec 64 := Wyrand.rapidMix (x ^^^ Wyrand.P1) x

theorem next_eq (s : BitVec 64) : Wyrand.next s = (f (s + Wyrand.P0), s + Wyrand.P0) := rfl

def P0inv : BitVec 64 := 0x32e25c49d2beaf2d#64
theorem P0inv_mul : P0inv * Wyrand.P0 = 1#64 := by decide

/-- `iter_weyl` for Mathlib's `f^[n]`, for any increment (C08 uses it for SplitMix64 too); the `Spec.iter` form exists because
C01 and the GF(2) modules are stated without Mathlib -/
theorem iterate_add (c s : BitVec 64) (i : Nat) : (fun x => x + c)^[i] s = s + BitVec.ofNat 64 i * c :=
  iter_eq_iterate .. ▸ iter_weyl c i s

theorem walk_onto (a y : BitVec 64) : ∃ n : Nat, a + BitVec.ofNat 64 n * Wyrand.P0 + Wyrand.P0 = y := by
  refine ⟨((y - a - Wyrand.P0) * P0inv).toNat, ?_⟩
  rw [BitVec.ofNat_toNat, BitVec.setWidth_eq, BitVec.mul_assoc, P0inv_mul, BitVec.mul_one,
    BitVec.add_assoc, BitVec.sub_add_cancel, BitVec.add_comm, BitVec.sub_add_cancel]

theorem period_mul (g : BitVec 64 → BitVec 64) (d : BitVec 64) (h : ∀ x, g x = g (x + d)) (k : Nat) :
    ∀ x, g x = g (x + BitVec.ofNat 64 k * d) := by
  induction k with
  | zero => intro x; simp
  | succ k ih =>
    intro x
    rw [BitVec.ofNat_add, BitVec.add_mul, BitVec.one_mul, ← BitVec.add_assoc, ← h, ← ih]

/-- double `d` until the next doubling gives `0` -/
theorem multiple_eq_half (d : BitVec 64) (hd : d ≠ 0#64) : ∃ k : Nat, BitVec.ofNat 64 k * d = BitVec.ofNat 64 (2 ^ 63) := by
  have half (x : BitVec 64) (hx : x ≠ 0#64) (h2 : x + x = 0#64) : x = BitVec.ofNat 64 (2 ^ 63) := by
    apply BitVec.eq_of_toNat_eq
    have h0 : x.toNat ≠ 0 := fun h => hx (BitVec.eq_of_toNat_eq h)
    have := congrArg BitVec.toNat h2
    simp only [BitVec.toNat_add, BitVec.toNat_ofNat] at this ⊢
    omega
  have key : ∀ n, BitVec.ofNat 64 (2 ^ n) * d = 0#64 → ∃ k : Nat, BitVec.ofNat 64 k * d = BitVec.ofNat 64 (2 ^ 63) := by
    intro n
    induction n with
    | zero => intro h; exact absurd (by simpa using h) hd
    | succ n ih =>
      intro h
      by_cases h0 : BitVec.ofNat 64 (2 ^ n) * d = 0#64
      · exact ih h0
      · exact ⟨2 ^ n, half _ h0 (by rw [← BitVec.add_mul, ← BitVec.ofNat_add, ← Nat.two_mul, ← Nat.pow_succ']; exact h)⟩
  exact key 64 (by simp)

theorem f_not_half_periodic : f 0#64 ≠ f (0#64 + BitVec.ofNat 64 (2 ^ 63)) := by decide

theorem f_no_period (d : BitVec 64) (hd : d ≠ 0#64) : ∃ x, f x ≠ f (x + d) := by
  by_contra hc
  obtain ⟨k, hk⟩ := multiple_eq_half d hd
  exact f_not_half_periodic (hk ▸ period_mul f d (not_exists_not.1 hc) k 0#64)

theorem outputs_differ (a b : BitVec 64) (h : a ≠ b) :
    ∃ n : Nat, (Wyrand.next ((fun s => (Wyrand.next s).2)^[n] a)).1 ≠ (Wyrand.next ((fun s => (Wyrand.next s).2)^[n] b)).1 := by
  obtain ⟨x, hx⟩ := f_no_period (b - a) fun e => h (by simpa using (BitVec.sub_eq_iff_eq_add.1 e).symm)
  obtain ⟨n, rfl⟩ := walk_onto a x
  refine ⟨n, ?_⟩
  simp only [next_eq, iterate_add]
  -- the walk from `b` is the walk from `a` shifted by `b - a`
  have shift (u : BitVec 64) : a + u + (b - a) = b + u := by
    rw [BitVec.add_comm a, BitVec.add_assoc, BitVec.add_comm a, BitVec.sub_add_cancel, BitVec.add_comm]
  rwa [BitVec.add_assoc b, ← shift, ← BitVec.add_assoc]

end Urandom.WyStream
