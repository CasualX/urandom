import Mathlib.Probability.Distributions.Exponential
import Mathlib.Probability.Distributions.Gaussian.Real
import Mathlib.Probability.ConditionalProbability
import Mathlib.Probability.CDF
import Mathlib.MeasureTheory.Measure.Prod
import Mathlib.MeasureTheory.Group.Measure

/-
The laws of the two ziggurat TAIL samplers (idealised: exact real arithmetic, exactly uniform independent draws), in
Mathlib's measure theory.

* exponential (`exp.rs`, `zero_case`): `R - ln U` is a unit exponential conditioned on exceeding `R` (memorylessness);
* normal (`normal.rs`, `zero_case`, Marsaglia 1964): `x = ln(U1)/R`, `y = ln(U2)` until `-2 y >= x^2`, then `R - x`:
  the standard normal law conditioned on `[R, ∞)`.

`Lemmas/ZigguratLaw.lean` has the layers, `Lemmas/BaseLayer.lean` the base layer that calls these samplers; no theorem
composes the three, and the floating-point execution is not covered.
`BaseLayer.tail`, the unnormalised tail measure, is declared here because the normal tail law is stated with it and
`Lemmas/BaseLayer.lean` imports this file.
-/
open MeasureTheory ProbabilityTheory Set Real

namespace Urandom.BaseLayer

/-- unnormalised tail: density `f` on `[R, ∞)` -/
noncomputable def tail (f : ℝ → ℝ) (R : ℝ) : Measure ℝ :=
  ((volume : Measure ℝ).restrict (Ici R)).withDensity (fun t => ENNReal.ofReal (f t))

end Urandom.BaseLayer

namespace Urandom.TailLaw

open Urandom.BaseLayer (tail)

/-- the law of one `float01()` draw, idealised: uniform on `(0,1)` -/
noncomputable def unif : Measure ℝ := (volume : Measure ℝ).restrict (Ioo 0 1)

instance : IsFiniteMeasure unif := by unfold unif; infer_instance

/-- distribution function of the exponential law, without the case split of `cdf_expMeasure_eq` (for `t < 0` the argument of
`ofReal` is negative) -/
theorem expMeasure_Iic {r : ℝ} (hr : 0 < r) (t : ℝ) : expMeasure r (Iic t) = ENNReal.ofReal (1 - exp (-(r * t))) := by
  have := isProbabilityMeasure_expMeasure hr
  rw [← ofReal_cdf, cdf_expMeasure_eq hr]
  split_ifs with h
  · rfl
  · rw [ENNReal.ofReal_of_nonpos (sub_nonpos.2 (one_le_exp (by nlinarith)))]
    exact ENNReal.ofReal_zero

theorem expMeasure_Ioi {r : ℝ} (hr : 0 < r) {c : ℝ} (hc : 0 ≤ c) :
    expMeasure r (Ioi c) = ENNReal.ofReal (exp (-(r * c))) := by
  have := isProbabilityMeasure_expMeasure hr
  rw [← compl_Iic, prob_compl_eq_one_sub measurableSet_Iic, expMeasure_Iic hr, ← ENNReal.ofReal_one,
    ← ENNReal.ofReal_sub _ (sub_nonneg.2 (exp_le_one_iff.2 (by nlinarith))), sub_sub_cancel]

theorem expMeasure_Ici {r : ℝ} (hr : 0 < r) {c : ℝ} (hc : 0 ≤ c) :
    expMeasure r (Ici c) = ENNReal.ofReal (exp (-(r * c))) := by
  rw [← expMeasure_Ioi hr hc]
  exact measure_congr ((withDensity_absolutelyContinuous _ _).ae_le Ioi_ae_eq_Ici.symm)

theorem neg_log_div_uniform {r : ℝ} (hr : 0 < r) : Measure.map (fun u => -log u / r) unif = expMeasure r := by
  have hm : Measurable (fun u : ℝ => -log u / r) := measurable_log.neg.div_const r
  refine Measure.ext_of_Iic _ _ fun t => ?_
  -- the draws with `-ln u / r ≤ t` are `[exp (-(r t)), 1)` (empty for `t < 0`)
  have e : (fun u => -log u / r) ⁻¹' Iic t ∩ Ioo 0 1 = Ico (exp (-(r * t))) 1 := by
    ext u
    simp only [mem_inter_iff, mem_preimage, mem_Iic, mem_Ioo, mem_Ico, div_le_iff₀' hr, neg_le (a := log u)]
    exact ⟨fun ⟨h, h0, h1⟩ => ⟨(le_log_iff_exp_le h0).1 h, h1⟩,
      fun ⟨h, h1⟩ => have h0 := (exp_pos _).trans_le h; ⟨(le_log_iff_exp_le h0).2 h, h0, h1⟩⟩
  rw [Measure.map_apply hm measurableSet_Iic, unif, Measure.restrict_apply (hm measurableSet_Iic), e, Real.volume_Ico,
    expMeasure_Iic hr]

theorem neg_log_uniform : Measure.map (fun u => -log u) unif = expMeasure 1 := by
  simpa only [div_one] using neg_log_div_uniform one_pos

/-- memorylessness -/
theorem exp_tail_law {R : ℝ} (hR : 0 ≤ R) :
    Measure.map (fun y => R + y) (expMeasure 1) = (expMeasure 1)[|Ioi R] := by
  have := isProbabilityMeasure_expMeasure one_pos
  refine Measure.ext_of_Iic _ _ fun t => ?_
  rw [Measure.map_apply (measurable_const_add R) measurableSet_Iic, preimage_const_add_Iic, expMeasure_Iic one_pos,
    cond_apply measurableSet_Ioi, Ioi_inter_Iic, expMeasure_Ioi one_pos hR, one_mul, one_mul]
  rcases le_total t R with h | h
  · rw [Ioc_eq_empty (not_lt.2 h), measure_empty, mul_zero, ENNReal.ofReal_of_nonpos]
    exact sub_nonpos.2 (one_le_exp (by linarith))
  · rw [← Iic_sdiff_Iic, measure_sdiff (Iic_subset_Iic.2 h) nullMeasurableSet_Iic (measure_ne_top _ _),
      expMeasure_Iic one_pos, expMeasure_Iic one_pos, one_mul, one_mul,
      ← ENNReal.ofReal_sub _ (sub_nonneg.2 (exp_le_one_iff.2 (by linarith))), ← ENNReal.ofReal_inv_of_pos (exp_pos _),
      ← ENNReal.ofReal_mul (inv_nonneg.2 (exp_pos _).le), show -(t - R) = -t - -R by ring, exp_sub]
    congr 1
    field_simp
    ring

/-- `ZIG_EXP_R - float01().ln()` -/
theorem exp_tail_sampler_law {R : ℝ} (hR : 0 ≤ R) :
    Measure.map (fun u => R - log u) unif = (expMeasure 1)[|Ioi R] := by
  rw [← exp_tail_law hR, ← neg_log_uniform, Measure.map_map (g := fun y => R + y) (f := fun u => -log u) (measurable_const_add R) measurable_log.neg]
  rfl

theorem map_cond_eq_normalize {α β : Type*} [MeasurableSpace α] [MeasurableSpace β] {μ : Measure α} {τ : Measure β} {s : Set α}
    {h : α → β} (hh : Measurable h) {c : ℝ} (hc : 0 < c) (H : Measure.map h (μ.restrict s) = ENNReal.ofReal c • τ) :
    Measure.map h (μ[|s]) = (τ univ)⁻¹ • τ := by
  have hc0 := (ENNReal.ofReal_pos.2 hc).ne'
  have hs : μ s = ENNReal.ofReal c * τ univ := by
    rw [← Measure.restrict_apply_univ, ← preimage_univ (f := h), ← Measure.map_apply hh .univ, H, Measure.smul_apply, smul_eq_mul]
  rw [ProbabilityTheory.cond, Measure.map_smul, H, hs, smul_smul, ENNReal.mul_inv (Or.inl hc0) (Or.inl ENNReal.ofReal_ne_top), mul_right_comm,
    ENNReal.inv_mul_cancel hc0 ENNReal.ofReal_ne_top, one_mul]

/-- the acceptance region of the loop `while -2 y < x^2` (with `X = -x ≥ 0`, `Y = -y ≥ 0`): leave when `X^2 ≤ 2 Y` -/
def Acc : Set (ℝ × ℝ) := {p | p.1 ^ 2 ≤ 2 * p.2}

theorem measurableSet_Acc : MeasurableSet Acc :=
  measurableSet_le (measurable_fst.pow_const 2) (measurable_snd.const_mul 2)

noncomputable def gauss (t : ℝ) : ℝ := exp (-(t ^ 2) / 2)

theorem measurable_gauss : Measurable (fun t : ℝ => ENNReal.ofReal (gauss t)) :=
  (((measurable_id.pow_const 2).neg.div_const 2).exp).ennreal_ofReal

theorem map_restrict_Acc {R : ℝ} (hR : 0 < R) :
    Measure.map (fun p : ℝ × ℝ => R + p.1) (((expMeasure R).prod (expMeasure 1)).restrict Acc) =
      ENNReal.ofReal (R * exp (R ^ 2 / 2)) • tail gauss R := by
  have := isProbabilityMeasure_expMeasure one_pos
  have hmap : Measurable (fun p : ℝ × ℝ => R + p.1) := measurable_fst.const_add R
  ext s hs
  have hs' : MeasurableSet ((fun x => R + x) ⁻¹' s) := measurable_const_add R hs
  -- the section of the event over `x` is `y ≥ x^2/2`, of probability `exp (-x^2/2)`
  have hsec : ∀ x, expMeasure 1 (Prod.mk x ⁻¹' ((fun p : ℝ × ℝ => R + p.1) ⁻¹' s ∩ Acc)) =
      ((fun x => R + x) ⁻¹' s).indicator (fun x => ENNReal.ofReal (gauss x)) x := fun x => by
    by_cases hx : R + x ∈ s
    · have e : Prod.mk x ⁻¹' ((fun p : ℝ × ℝ => R + p.1) ⁻¹' s ∩ Acc) = Ici (x ^ 2 / 2) := by
        ext y
        simp only [Acc, mem_preimage, mem_inter_iff, mem_ofPred_eq, hx, true_and, mem_Ici]
        exact (div_le_iff₀' two_pos).symm
      rw [e, expMeasure_Ici one_pos (by positivity), indicator_of_mem (show x ∈ _ from hx), gauss, one_mul, neg_div]
    · have e : Prod.mk x ⁻¹' ((fun p : ℝ × ℝ => R + p.1) ⁻¹' s ∩ Acc) = ∅ := by
        ext y
        simp only [mem_preimage, mem_inter_iff, hx, false_and, mem_empty_iff_false]
      rw [e, measure_empty, indicator_of_notMem (show x ∉ _ from hx)]
  rw [Measure.map_apply hmap hs, Measure.restrict_apply (hmap hs), Measure.prod_apply ((hmap hs).inter measurableSet_Acc)]
  simp_rw [hsec]
  rw [lintegral_indicator hs', show expMeasure R = volume.withDensity (exponentialPDF R) from rfl,
    setLIntegral_withDensity_eq_setLIntegral_mul (f := exponentialPDF R) _ (measurable_exponentialPDFReal R).ennreal_ofReal
      measurable_gauss hs',
    Measure.smul_apply, smul_eq_mul, tail, ← withDensity_indicator measurableSet_Ici, withDensity_apply _ hs,
    ← (measurePreserving_add_left volume R).setLIntegral_comp_preimage hs (measurable_gauss.indicator measurableSet_Ici),
    ← lintegral_const_mul' _ _ ENNReal.ofReal_ne_top]
  refine lintegral_congr fun x => ?_
  -- the densities: `R exp (-R x) exp (-x^2/2) = R exp (R^2/2) exp (-(R+x)^2/2)` for `x ≥ 0`, both sides `0` for `x < 0`
  rw [Pi.mul_apply]
  by_cases h0 : 0 ≤ x
  · rw [indicator_of_mem (show R + x ∈ Ici R from le_add_of_nonneg_right h0), exponentialPDF_of_nonneg h0, gauss, gauss,
      ← ENNReal.ofReal_mul (by positivity), ← ENNReal.ofReal_mul (by positivity), mul_assoc, mul_assoc, ← exp_add, ← exp_add]
    congr 3
    ring
  · rw [indicator_of_notMem (show R + x ∉ Ici R from fun h => h0 (le_add_iff_nonneg_right R |>.1 h)), exponentialPDF_of_neg (not_le.1 h0),
      zero_mul, mul_zero]

theorem gaussianReal_restrict_Ici (R : ℝ) :
    Measure.map id ((gaussianReal 0 1).restrict (Ici R)) = ENNReal.ofReal (√(2 * π))⁻¹ • tail gauss R := by
  rw [Measure.map_id, gaussianReal_of_var_ne_zero _ one_ne_zero, restrict_withDensity measurableSet_Ici, tail,
    ← withDensity_smul _ measurable_gauss]
  congr 1
  funext t
  rw [gaussianPDF, gaussianPDFReal, Pi.smul_apply, smul_eq_mul, ← ENNReal.ofReal_mul (inv_nonneg.2 (sqrt_nonneg _)), gauss,
    NNReal.coe_one, mul_one, mul_one, sub_zero]

/-- the loop of `zero_case` in `normal.rs` -/
theorem normal_tail_sampler_law {R : ℝ} (hR : 0 < R) :
    Measure.map (fun u : ℝ × ℝ => R - log u.1 / R)
        ((unif.prod unif)[|{u | (log u.1 / R) ^ 2 ≤ -2 * log u.2}]) = (gaussianReal 0 1)[|Ici R] := by
  have hf : Measurable (fun u : ℝ => -log u / R) := measurable_log.neg.div_const R
  have hg : Measurable (fun u : ℝ => -log u) := measurable_log.neg
  -- the draws are `(X, Y) = (-ln U1 / R, -ln U2)`, exponential of rates `R` and `1`
  have e1 : {u : ℝ × ℝ | (log u.1 / R) ^ 2 ≤ -2 * log u.2} = Prod.map (fun u => -log u / R) (fun u => -log u) ⁻¹' Acc := by
    ext u
    simp only [Acc, mem_preimage, Prod.map_fst, Prod.map_snd, mem_ofPred_eq, neg_div, neg_sq, mul_neg, neg_mul]
  have e2 : (fun u : ℝ × ℝ => R - log u.1 / R) = (fun p : ℝ × ℝ => R + p.1) ∘ Prod.map (fun u => -log u / R) (fun u => -log u) := by
    funext u
    simp only [Function.comp, Prod.map_fst, neg_div, sub_eq_add_neg]
  have H : Measure.map (fun u : ℝ × ℝ => R - log u.1 / R) ((unif.prod unif).restrict {u | (log u.1 / R) ^ 2 ≤ -2 * log u.2}) =
      ENNReal.ofReal (R * exp (R ^ 2 / 2)) • tail gauss R := by
    rw [e1, e2, ← Measure.map_map (measurable_fst.const_add R) (hf.prodMap hg), ← Measure.restrict_map (hf.prodMap hg) measurableSet_Acc,
      ← Measure.map_prod_map _ _ hf hg, neg_log_div_uniform hR, neg_log_uniform, map_restrict_Acc hR]
  rw [map_cond_eq_normalize ((measurable_fst.log.div_const R).const_sub R) (by positivity) H,
    ← map_cond_eq_normalize measurable_id (by positivity) (gaussianReal_restrict_Ici R), Measure.map_id]

end Urandom.TailLaw
