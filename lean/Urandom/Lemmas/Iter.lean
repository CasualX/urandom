import Urandom.Spec.Published
/- `Spec.iter` under successor, sum and product of step counts. -/
namespace Urandom
open Urandom.Spec (iter)

theorem iter_succ' {α : Type} (f : α → α) (n : Nat) (a : α) : iter f (n + 1) a = f (iter f n a) := by
  induction n generalizing a with
  | zero => rfl
  | succ n ih => exact ih (f a)

theorem iter_add {α : Type} (f : α → α) (m n : Nat) (a : α) : iter f (m + n) a = iter f n (iter f m a) := by
  induction m generalizing a with
  | zero => simp [iter]
  | succ m ih => rw [Nat.succ_add]; exact ih (f a)

theorem iter_mul {α : Type} (f : α → α) (m n : Nat) (a : α) : iter f (m * n) a = iter (iter f m) n a := by
  induction n generalizing a with
  | zero => rfl
  | succ n ih => rw [Nat.mul_succ, Nat.add_comm, iter_add, ih]; rfl

end Urandom
