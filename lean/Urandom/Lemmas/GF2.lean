import Urandom.Lemmas.Iter
/-
GF(2) polynomial calculus over an abstract XOR space: evaluation `ev T p s = ⊕_{i∈p} Tⁱ s` of a polynomial (bit mask `p`)
at an additive operator `T`; multiplication, repeated squaring and square-and-multiply modulo a polynomial that
annihilates `T`.  This file is the specification layer: the definitions the theorems are about, structural on fuel so
that they could be run.  What the kernel runs are their equals `mulmodF` / `powmodF` of `GF2Order.lean`.
-/
namespace Urandom.GF2
open Urandom.Spec (iter)

/-- a vector space over GF(2), by its axioms -/
class XSpace (V : Type) extends Add V, Zero V where
  add_assoc' : ∀ a b c : V, a + b + c = a + (b + c)
  add_comm' : ∀ a b : V, a + b = b + a
  add_zero' : ∀ a : V, a + 0 = a
  add_self' : ∀ a : V, a + a = 0

namespace XSpace
variable {V : Type} [XSpace V]
instance : Std.Associative (α := V) (· + ·) := ⟨add_assoc'⟩
instance : Std.Commutative (α := V) (· + ·) := ⟨add_comm'⟩
theorem zero_add' (a : V) : 0 + a = a := by rw [add_comm', add_zero']
theorem eq_zero_of_eq_add_self {a : V} (h : a = a + a) : a = 0 := h.trans (add_self' a)
end XSpace
open XSpace

/-- an additive map -/
structure Lin (V : Type) [XSpace V] where
  f : V → V
  map_add : ∀ a b, f (a + b) = f a + f b

namespace Lin
variable {V : Type} [XSpace V] (T : Lin V)
theorem map_zero : T.f 0 = 0 := eq_zero_of_eq_add_self (by have h := T.map_add 0 0; rwa [add_zero'] at h)
end Lin

variable {V : Type} [XSpace V]

def bit0 (p : Nat) (s : V) : V := if p % 2 = 1 then s else 0

/-- `⊕_{i∈p} Tⁱ s`, in Horner form -/
def ev (T : Lin V) (p : Nat) (s : V) : V :=
  if h : p = 0 then 0 else bit0 p s + T.f (ev T (p / 2) s)
decreasing_by omega

theorem ev_zero (T : Lin V) (s : V) : ev T 0 s = 0 := by rw [ev]; simp
theorem ev_step (T : Lin V) (p : Nat) (s : V) : ev T p s = bit0 p s + T.f (ev T (p / 2) s) := by
  by_cases h : p = 0
  · subst h; rw [ev_zero]; simp [bit0, T.map_zero, add_zero']
  · rw [ev]; simp [h]

theorem halving_induction {motive : Nat → Prop} (zero : motive 0) (half : ∀ p, motive (p / 2) → motive p) (p : Nat) : motive p := by
  induction p using Nat.strongRecOn with
  | _ p ih => exact if h : p = 0 then h ▸ zero else half p (ih _ (by omega))

theorem bit0_add (p : Nat) (a b : V) : bit0 p (a + b) = bit0 p a + bit0 p b := by
  unfold bit0; split <;> simp [add_zero']

theorem ev_add (T : Lin V) (p : Nat) : ∀ a b : V, ev T p (a + b) = ev T p a + ev T p b := by
  induction p using halving_induction with
  | zero => simp [ev_zero, add_zero']
  | half p ih =>
    intro a b
    rw [ev_step T p (a+b), ev_step T p a, ev_step T p b, ih, T.map_add, bit0_add]
    ac_rfl

theorem bit0_xor (p q : Nat) (s : V) : bit0 (p ^^^ q) s = bit0 p s + bit0 q s := by
  unfold bit0
  by_cases hp : p % 2 = 1 <;> by_cases hq : q % 2 = 1 <;> simp_all [add_zero', zero_add', add_self']

theorem ev_xor (T : Lin V) (p : Nat) : ∀ (q : Nat) (s : V), ev T (p ^^^ q) s = ev T p s + ev T q s := by
  induction p using halving_induction with
  | zero => simp [ev_zero, zero_add']
  | half p ih =>
    intro q s
    rw [ev_step T (p ^^^ q), ev_step T p, ev_step T q, Nat.xor_div_two, ih, T.map_add, bit0_xor]
    ac_rfl

theorem ev_double (T : Lin V) (p : Nat) (s : V) : ev T (2 * p) s = T.f (ev T p s) := by
  rw [ev_step]
  simp [bit0, zero_add']

theorem ev_comm_T (T : Lin V) (p : Nat) : ∀ s : V, ev T p (T.f s) = T.f (ev T p s) := by
  induction p using halving_induction with
  | zero => simp [ev_zero, T.map_zero]
  | half p ih =>
    intro s
    rw [ev_step T p (T.f s), ev_step T p s, ih, T.map_add]
    unfold bit0; split <;> simp [T.map_zero]

theorem ev_one (T : Lin V) (s : V) : ev T 1 s = s := by
  rw [ev_step]; simp [bit0, ev_zero, T.map_zero, add_zero']

theorem ev_two (T : Lin V) (s : V) : ev T 2 s = T.f s := by
  have := ev_double T 1 s
  simpa [ev_one] using this

/-- `x · a mod P`, for `P` of degree `d` -/
def mulx (P d a : Nat) : Nat :=
  let b := 2 * a
  if b.testBit d then b ^^^ P else b

/-- shift-and-add over the bits `n-1 .. 0` of `a`, highest first; the invariant is `acc = (a >>> n) · b mod P` (`mulmodAux_spec`) -/
def mulmodAux (P d a b : Nat) : Nat → Nat → Nat
  | 0, acc => acc
  | n+1, acc =>
    let acc := mulx P d acc
    let acc := if a.testBit n then acc ^^^ b else acc
    mulmodAux P d a b n acc

def mulmod (P d a b : Nat) : Nat := mulmodAux P d a b d 0

/-- `P(T) = 0`, and `d` is the exact degree of `P` (`top`, `lt`) -/
structure Annihilates (T : Lin V) (P d : Nat) : Prop where
  ann : ∀ s, ev T P s = 0
  top : P.testBit d = true
  lt : P < 2 ^ (d + 1)

theorem testBit_ge_of_lt {x n i : Nat} (h : x < 2 ^ n) (hi : n ≤ i) : x.testBit i = false := by
  apply Nat.testBit_lt_two_pow
  exact Nat.lt_of_lt_of_le h (Nat.pow_le_pow_right (by omega) hi)

theorem mulx_lt {P d a : Nat} (hP : P.testBit d = true) (hPl : P < 2 ^ (d+1)) (ha : a < 2 ^ d) :
    mulx P d a < 2 ^ d := by
  have hb : 2 * a < 2 ^ (d + 1) := by rw [Nat.pow_succ]; omega
  unfold mulx
  simp only
  apply Nat.lt_pow_two_of_testBit
  intro i hi
  -- at bit `d` the top bit of `P` cancels that of `2a`; above it both are zero
  rcases Nat.eq_or_lt_of_le hi with rfl | hid
  · split <;> rename_i hbit <;> simp [hbit, hP]
  · split <;> simp [testBit_ge_of_lt hb hid, testBit_ge_of_lt hPl hid]

theorem ev_mulx (T : Lin V) {P d : Nat} (hA : Annihilates T P d) (a : Nat) (s : V) :
    ev T (mulx P d a) s = T.f (ev T a s) := by
  unfold mulx
  simp only
  split
  · rw [ev_xor, hA.ann, add_zero', ev_double]
  · rw [ev_double]

theorem shiftRight_split (a n : Nat) : a >>> n = 2 * (a >>> (n + 1)) + (if a.testBit n then 1 else 0) := by
  have h : (if a.testBit n then 1 else 0) = a >>> n % 2 := by
    rw [Nat.shiftRight_eq_div_pow, ← Nat.toNat_testBit]; cases a.testBit n <;> rfl
  rw [h, Nat.shiftRight_succ, Nat.div_add_mod]

theorem ev_shiftRight_step (T : Lin V) (a n : Nat) (s : V) :
    ev T (a >>> n) s = (if a.testBit n then s else 0) + T.f (ev T (a >>> (n + 1)) s) := by
  rw [ev_step T (a >>> n), Nat.shiftRight_succ]
  congr 1
  rw [bit0, Nat.shiftRight_eq_div_pow, ← Nat.toNat_testBit]
  cases a.testBit n <;> rfl

theorem mulmodAux_spec (T : Lin V) {P d : Nat} (hA : Annihilates T P d) (a b : Nat) (hb : b < 2 ^ d) :
    ∀ (n acc : Nat), acc < 2 ^ d → (∀ s, ev T acc s = ev T (a >>> n) (ev T b s)) →
      (mulmodAux P d a b n acc < 2 ^ d ∧ ∀ s, ev T (mulmodAux P d a b n acc) s = ev T a (ev T b s)) := by
  intro n
  induction n with
  | zero => intro acc hacc h; exact ⟨hacc, by simpa [mulmodAux] using h⟩
  | succ n ih =>
    intro acc hacc h
    unfold mulmodAux
    have hm := mulx_lt hA.top hA.lt hacc
    apply ih
    · split
      · exact Nat.xor_lt_two_pow hm hb
      · exact hm
    · intro s
      rw [ev_shiftRight_step T a n]
      split
      · rw [ev_xor, ev_mulx T hA, h s]; ac_rfl
      · rw [ev_mulx T hA, h s, zero_add']

theorem mulmod_spec (T : Lin V) {P d : Nat} (hA : Annihilates T P d) (a b : Nat)
    (ha : a < 2 ^ d) (hb : b < 2 ^ d) :
    mulmod P d a b < 2 ^ d ∧ ∀ s, ev T (mulmod P d a b) s = ev T a (ev T b s) := by
  apply mulmodAux_spec T hA a b hb d 0 (Nat.two_pow_pos d)
  intro s
  rw [Nat.shiftRight_eq_zero a d ha, ev_zero, ev_zero]

def sqIter (P d : Nat) : Nat → Nat → Nat
  | 0, r => r
  | n+1, r => sqIter P d n (mulmod P d r r)

theorem sqIter_spec (T : Lin V) {P d : Nat} (hA : Annihilates T P d) :
    ∀ (n r k : Nat), r < 2 ^ d → (∀ s, ev T r s = iter T.f k s) →
      ∀ s, ev T (sqIter P d n r) s = iter T.f (k * 2 ^ n) s := by
  intro n
  induction n with
  | zero => intro r k _ h s; simpa [sqIter] using h s
  | succ n ih =>
    intro r k hr h s
    unfold sqIter
    have hm := mulmod_spec T hA r r hr hr
    rw [ih (mulmod P d r r) (k + k) hm.1]
    · congr 1; rw [Nat.pow_succ, Nat.add_mul, ← Nat.mul_assoc, Nat.mul_two]
    · intro s
      rw [hm.2 s, h, h, iter_add]

/-- `2 ≤ d`: the polynomial `x` (the mask `2`) has to be a reduced representative already, `2 < 2^d` -/
theorem sqIter_two (T : Lin V) {P d : Nat} (hA : Annihilates T P d) (hd : 2 ≤ d) (n : Nat) (s : V) :
    ev T (sqIter P d n 2) s = iter T.f (2 ^ n) s := by
  simpa using sqIter_spec T hA n 2 1 (Nat.pow_lt_pow_right (by omega : 1 < 2) hd) (fun s => by simp [ev_two, iter]) s

/-- `k x`, with `x` evaluated first: under the kernel's call-by-need evaluation this keeps a pending product out of the next
round (`powmodF` of `GF2Order.lean` is where it is run) -/
def forceNat (x : Nat) (k : Nat → Nat) : Nat :=
  match x with
  | 0 => k 0
  | n+1 => k (n+1)
theorem forceNat_eq (x : Nat) (k : Nat → Nat) : forceNat x k = k x := by cases x <;> rfl

def powmodAux (P d b e : Nat) : Nat → Nat → Nat
  | 0, acc => acc
  | n+1, acc =>
    forceNat (mulmod P d acc acc) fun acc =>
    forceNat (if e.testBit n then mulmod P d acc b else acc) fun acc =>
    powmodAux P d b e n acc
def powmod (P d b e bits : Nat) : Nat := powmodAux P d b e bits 1

theorem iter_comm_ev (T : Lin V) (b : Nat) (n : Nat) (s : V) :
    iter (ev T b) (n+1) s = ev T b (iter (ev T b) n s) := Urandom.iter_succ' _ n s

theorem powmodAux_spec (T : Lin V) {P d : Nat} (hA : Annihilates T P d) (b e : Nat) (hb : b < 2 ^ d) :
    ∀ (n acc : Nat), acc < 2 ^ d → (∀ s, ev T acc s = iter (ev T b) (e >>> n) s) →
      (powmodAux P d b e n acc < 2 ^ d ∧ ∀ s, ev T (powmodAux P d b e n acc) s = iter (ev T b) e s) := by
  intro n
  induction n with
  | zero => intro acc hacc h; exact ⟨hacc, by simpa [powmodAux] using h⟩
  | succ n ih =>
    intro acc hacc h
    unfold powmodAux
    simp only [forceNat_eq]
    have hsq := mulmod_spec T hA acc acc hacc hacc
    apply ih
    · split
      · exact (mulmod_spec T hA _ b hsq.1 hb).1
      · exact hsq.1
    · intro s
      -- `iter f (2k + 1) s` unfolds to `iter f (2k) (f s)`
      split <;> rename_i hbit
      · rw [(mulmod_spec T hA _ b hsq.1 hb).2, hsq.2, h, h, shiftRight_split e n, if_pos hbit, ← iter_add, Nat.two_mul]; rfl
      · rw [hsq.2, h, h, shiftRight_split e n, if_neg hbit, ← iter_add, Nat.two_mul]; rfl

theorem powmod_spec (T : Lin V) {P d : Nat} (hA : Annihilates T P d) (hd : 1 ≤ d) (b e bits : Nat) (hb : b < 2 ^ d)
    (he : e < 2 ^ bits) :
    powmod P d b e bits < 2 ^ d ∧ ∀ s, ev T (powmod P d b e bits) s = iter (ev T b) e s := by
  apply powmodAux_spec T hA b e hb bits 1 (Nat.one_lt_two_pow (by omega))
  · intro s
    rw [Nat.shiftRight_eq_zero e bits he, ev_one]; rfl

theorem powmod_two (T : Lin V) {P d : Nat} (hA : Annihilates T P d) (hd : 2 ≤ d) (e bits : Nat) (he : e < 2 ^ bits) (s : V) :
    ev T (powmod P d 2 e bits) s = iter T.f e s := by
  rw [(powmod_spec T hA (by omega) 2 e bits (Nat.pow_lt_pow_right (by omega : 1 < 2) hd) he).2, funext (ev_two T)]

theorem ev_map_zero (T : Lin V) (p : Nat) : ev T p (0 : V) = 0 := Lin.map_zero ⟨ev T p, ev_add T p⟩

/-- if `a + 1` has an inverse `u` modulo `P`, then `a(T)` fixes only `0` -/
theorem eq_zero_of_inverse (T : Lin V) {P d : Nat} (hA : Annihilates T P d) (hd : 1 ≤ d) {a u : Nat}
    (ha : a < 2 ^ d) (hu : u < 2 ^ d) (hcert : mulmod P d u (a ^^^ 1) = 1) {s : V} (hs : ev T a s = s) : s = 0 := by
  have h1 : 1 < 2 ^ d := Nat.one_lt_two_pow (by omega)
  have hm := (mulmod_spec T hA u _ hu (Nat.xor_lt_two_pow ha h1)).2 s
  rw [hcert, ev_xor, hs, ev_one, add_self', ev_map_zero] at hm
  exact hm

/-- if `u * (x^e + 1) ≡ 1 (mod P)` then `T^e s = s` forces `s = 0` -/
theorem no_period_of_cert (T : Lin V) {P d : Nat} (hA : Annihilates T P d) (hd : 2 ≤ d) (e bits u : Nat)
    (he : e < 2 ^ bits) (hu : u < 2 ^ d)
    (hcert : mulmod P d u (powmod P d 2 e bits ^^^ 1) = 1) (s : V) (hs : iter T.f e s = s) : s = 0 :=
  have h2 : 2 < 2 ^ d := Nat.pow_lt_pow_right (by omega : 1 < 2) hd
  eq_zero_of_inverse T hA (by omega) (powmod_spec T hA (by omega) 2 e bits h2 he).1 hu hcert
    ((powmod_two T hA hd e bits he s).trans hs)

end Urandom.GF2
