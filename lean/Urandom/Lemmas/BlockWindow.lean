import Urandom.Lemmas.Block
/-
Bounds on the positions a block generator issues, for the "actual coordinates" statement of C03:
every issued position has stream id `≥ S₀`, block counter `≥ C₀` (where the generator started) and
block counter `<` the core's current counter.  With the `Past` invariant this confines all issued
positions to a box - the window of `2^64` stream ids by `2^64` counters the file is named after - on which reduction modulo 2^64 is
injective as long as fewer than 2^64 jumps and at most 2^64 blocks were consumed.
-/
namespace Urandom.Block

/-- the bounds of the head comment as an invariant: for the core, for what is still buffered and for what was issued -/
structure Box (S₀ C₀ : Nat) (s : BS (Nat × Nat) Pos) (issued : List Pos) : Prop where
  core : S₀ ≤ s.core.1 ∧ C₀ ≤ s.core.2
  buf : s.index < 256 → ∀ i, s.index ≤ i → i < 256 → S₀ ≤ (s.buf i).1 ∧ C₀ ≤ (s.buf i).2.1 ∧ (s.buf i).2.1 < s.core.2
  issued : ∀ p ∈ issued, S₀ ≤ p.1 ∧ C₀ ≤ p.2.1 ∧ p.2.1 < s.core.2

variable {S₀ C₀ : Nat}

theorem empty_box (S C idx : Nat) (hidx : 256 ≤ idx) (buf : Nat → Pos) : Box S C ⟨(S, C), idx, buf⟩ [] :=
  ⟨⟨Nat.le_refl _, Nat.le_refl _⟩, fun h => absurd h (by simp; omega), fun _ h => by simp at h⟩

theorem serve_box {s : BS (Nat × Nat) Pos} {issued : List Pos} (h : Box S₀ C₀ s issued) (n : Nat)
    (hn : s.index + n ≤ 256) : Box S₀ C₀ { s with index := s.index + n } (issued ++ take s.buf s.index n) := by
  refine ⟨h.core, ?_, ?_⟩
  · intro hlt i hi hi'
    simp only at hlt hi
    exact h.buf (by omega) i (by omega) hi'
  · intro p hp
    rw [List.mem_append] at hp
    rcases hp with hp | hp
    · exact h.issued p hp
    · obtain ⟨i, hi, rfl⟩ := mem_take.1 hp
      exact h.buf (by omega) _ (by omega) (by omega)

theorem refill_box {s : BS (Nat × Nat) Pos} {issued : List Pos} (h : Box S₀ C₀ s issued) :
    Box S₀ C₀ (refill posCore s) issued := by
  have hc := h.core
  refine ⟨⟨hc.1, by simp only [refill, posCore_gen]; omega⟩, fun _ i _ hi => ?_, fun p hp => ?_⟩
  · simp only [refill, posCore_gen, posBatch]
    omega
  · have := h.issued p hp
    simp only [refill, posCore_gen]
    omega

theorem jump_box {s : BS (Nat × Nat) Pos} {issued : List Pos} (h : Box S₀ C₀ s issued) :
    Box S₀ C₀ (jump posCore s) issued := by
  have hc := h.core
  exact ⟨⟨by simp only [jump, posCore_jmp]; omega, hc.2⟩, fun hlt => by simp [jump] at hlt, h.issued⟩

theorem directOne_box {s : BS (Nat × Nat) Pos} {issued : List Pos} (h : Box S₀ C₀ s issued) :
    Box S₀ C₀ { s with core := (posCore.gen s.core).2 } (issued ++ take (posCore.gen s.core).1 0 256) := by
  have hc := h.core
  simp only [posCore_gen]
  refine ⟨⟨hc.1, by simp only; omega⟩, fun hlt i hi hi' => ?_, fun p hp => ?_⟩
  · have := h.buf hlt i hi hi'
    simp only at this ⊢
    omega
  · rcases List.mem_append.1 hp with hp | hp
    · have := h.issued p hp
      simp only
      omega
    · obtain ⟨i, hi, rfl⟩ := mem_take.1 hp
      simp only [posBatch]
      omega

theorem run_box (ops : List Op) {s : BS (Nat × Nat) Pos} {issued : List Pos} (h : Box S₀ C₀ s issued) :
    Box S₀ C₀ (run posCore s ops).2 (issued ++ (run posCore s ops).1) :=
  run_moves ⟨serve_box, refill_box, directOne_box⟩ ops (fun _ => jump_box) h

/-- the stream-id part of `Box`: a projection of it (`Box.lowS`), kept as a structure under this name -/
structure LowS (S₀ : Nat) (s : BS (Nat × Nat) Pos) (issued : List Pos) : Prop where
  core : S₀ ≤ s.core.1
  buf : s.index < 256 → ∀ i, s.index ≤ i → i < 256 → S₀ ≤ (s.buf i).1
  issued : ∀ p ∈ issued, S₀ ≤ p.1

theorem Box.lowS {s : BS (Nat × Nat) Pos} {issued : List Pos} (h : Box S₀ C₀ s issued) : LowS S₀ s issued :=
  ⟨h.core.1, fun hlt i hi hi' => (h.buf hlt i hi hi').1, fun p hp => (h.issued p hp).1⟩

end Urandom.Block
