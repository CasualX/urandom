import Urandom.Lemmas.GF2
/-
Versions of `mulmod` / `powmod` that the kernel runs fast (equal to them as functions), and on top of them a checker for
"`x` has order `q₁⋯qₖ` modulo `P`" whose soundness gives the period of every non-zero vector.
-/
namespace Urandom.GF2
open Urandom.Spec (iter)

/-- `f (n-1)`, …, `f 0` applied in turn. A bare `Nat.rec`: the kernel runs it far faster than the `brecOn` that a
definition by pattern matching compiles to. -/
def loopDown {α : Type} (f : Nat → α → α) (n : Nat) (a : α) : α :=
  Nat.rec (motive := fun _ => α → α) id (fun k ih a => ih (f k a)) n a

theorem eq_loopDown {α : Type} {f : Nat → α → α} {aux : Nat → α → α} (zero : ∀ a, aux 0 a = a)
    (succ : ∀ n a, aux (n + 1) a = aux n (f n a)) (n : Nat) (a : α) : aux n a = loopDown f n a := by
  induction n generalizing a with
  | zero => exact zero a
  | succ n ih => exact (succ n a).trans (ih _)

/-- One round of `mulmodAux` without branches, in the kernel's own `Nat` primitives, so that no instance is unfolded
at each round. -/
def mulStep (P d a b n acc : Nat) : Nat :=
  let c := Nat.mul 2 acc
  Nat.xor (Nat.xor c (Nat.mul P (Nat.mod (Nat.shiftRight c d) 2))) (Nat.mul b (Nat.mod (Nat.shiftRight a n) 2))

def mulmodF (P d a b : Nat) : Nat := loopDown (mulStep P d a b) d 0

theorem xor_mul_bit (x y a n : Nat) : x ^^^ y * (a >>> n % 2) = if a.testBit n then x ^^^ y else x := by
  rw [Nat.shiftRight_eq_div_pow, ← Nat.toNat_testBit]
  cases a.testBit n <;> simp

theorem mulStep_eq (P d a b n acc : Nat) :
    mulStep P d a b n acc = if a.testBit n then mulx P d acc ^^^ b else mulx P d acc := by
  show (2 * acc ^^^ P * ((2 * acc) >>> d % 2)) ^^^ b * (a >>> n % 2) = _
  rw [xor_mul_bit, xor_mul_bit]; rfl

theorem mulmod_eq_fast (P d a b : Nat) : mulmod P d a b = mulmodF P d a b :=
  eq_loopDown (fun _ => rfl) (fun n acc => by rw [mulStep_eq]; rfl) d 0

def powmodF (P d b e : Nat) (bits : Nat) : Nat :=
  loopDown (fun n acc =>
    forceNat (mulmodF P d acc acc) fun acc =>
    forceNat (if e.testBit n then mulmodF P d acc b else acc) id) bits 1

theorem powmod_eq_fast (P d b e bits : Nat) : powmod P d b e bits = powmodF P d b e bits :=
  eq_loopDown (fun _ => rfl) (fun n acc => by simp only [powmodAux, forceNat_eq, mulmod_eq_fast, id]) bits 1

theorem sqIter_eq_fast (P d n r : Nat) : sqIter P d n r = loopDown (fun _ r => mulmodF P d r r) n r :=
  eq_loopDown (fun _ => rfl) (fun n r => by rw [← mulmod_eq_fast]; rfl) n r

variable {V : Type} [XSpace V]

/-- Order certificate for `x` modulo `P`: for `g = x^e` and `cs = [(q₁,u₁), …, (qₖ,uₖ)]`, checks that
`g^(q₁⋯qₖ) = 1` and that every `uᵢ` is an inverse of `g^(q₁⋯qₖ/qᵢ) + 1`. The powers are shared along the
list: the head's is `g^(q₂⋯qₖ)`, and the tail is checked for `g^q₁`. -/
def orderCheck (P d : Nat) : List (Nat × Nat) → Nat → Bool
  | [], g => g == 1
  | (q, u) :: cs, g =>
    let pow (k : Nat) := powmodF P d g k (k.log2 + 1)
    decide (0 < q ∧ u < 2 ^ d) && mulmodF P d u (pow (cs.map (·.1)).prod ^^^ 1) == 1 && orderCheck P d cs (pow q)

theorem fst_dvd_prod {c : Nat × Nat} : ∀ {cs : List (Nat × Nat)}, c ∈ cs → c.1 ∣ (cs.map (·.1)).prod
  | _ :: _, .head _ => Nat.dvd_mul_right ..
  | _ :: _, .tail _ h => Nat.dvd_mul_left_of_dvd (fst_dvd_prod h) _

theorem orderCheck_sound (T : Lin V) {P d : Nat} (hA : Annihilates T P d) (hd : 1 ≤ d) :
    ∀ (cs : List (Nat × Nat)) (g e : Nat), g < 2 ^ d → (∀ s, ev T g s = iter T.f e s) →
      orderCheck P d cs g = true →
      (∀ s, iter T.f (e * (cs.map (·.1)).prod) s = s) ∧
      ∀ c ∈ cs, ∀ s, iter T.f (e * ((cs.map (·.1)).prod / c.1)) s = s → s = 0
  | [], g, e, _, hg, h => by
    have : g = 1 := by simpa [orderCheck] using h
    subst this
    exact ⟨fun s => by simpa [ev_one] using (hg s).symm, fun _ hc => nomatch hc⟩
  | (q, u) :: cs, g, e, hgd, hg, h => by
    simp only [orderCheck, Bool.and_eq_true, decide_eq_true_eq, beq_iff_eq, ← mulmod_eq_fast, ← powmod_eq_fast] at h
    obtain ⟨⟨⟨hq, hu⟩, hcert⟩, htail⟩ := h
    -- `pow k` is `g^k = x^(e·k)`; the tail is checked for `g^q = x^(e·q)`, and the head's inverse is for `g^(Πtail) = x^(e·Π/q)`
    have hpow (k : Nat) : powmod P d g k (k.log2 + 1) < 2 ^ d ∧ ∀ s, ev T (powmod P d g k (k.log2 + 1)) s = iter T.f (e * k) s := by
      have := powmod_spec T hA hd g k _ hgd Nat.lt_log2_self
      rwa [funext hg, ← funext (iter_mul T.f e k)] at this
    have ih := orderCheck_sound T hA hd cs _ (e * q) (hpow q).1 (hpow q).2 htail
    simp only [List.map_cons, List.prod_cons]
    refine ⟨fun s => by rw [← Nat.mul_assoc]; exact ih.1 s, fun c hc s hs => ?_⟩
    rcases List.mem_cons.1 hc with rfl | hc
    · rw [Nat.mul_div_cancel_left _ hq, ← (hpow _).2] at hs
      exact eq_zero_of_inverse T hA hd (hpow _).1 hu hcert hs
    · refine ih.2 c hc s ?_
      rwa [Nat.mul_assoc, ← Nat.mul_div_assoc _ (fst_dvd_prod hc)]

end Urandom.GF2
