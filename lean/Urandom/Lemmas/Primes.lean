import Mathlib.NumberTheory.LucasPrimality
import Mathlib.Tactic.NormNum.Prime
import Mathlib.Tactic.ReduceModChar
/- Primality of the three large prime factors of 2^256 - 1, and of the three primes their certificates need in turn; the
certificates below `prime_of_pratt` are printed by `tools/certs/genprimes.py`. -/

/-- Pratt certificate: `a` has order `p - 1` modulo `p`, where `F` lists the prime powers of `p - 1`. -/
theorem prime_of_pratt (p a : ℕ) (F : List (ℕ × ℕ)) (hF : ∀ c ∈ F, c.1.Prime)
    (hfac : (F.map fun c => c.1 ^ c.2).prod = p - 1)
    (h1 : (a : ZMod p) ^ (p - 1) = 1) (h2 : ∀ c ∈ F, (a : ZMod p) ^ ((p - 1) / c.1) ≠ 1) : p.Prime := by
  refine lucas_primality p a h1 fun q hq hd => ?_
  rw [← hfac] at hd
  obtain ⟨_, hm, hd⟩ := (Prime.dvd_prod_iff hq.prime).1 hd
  obtain ⟨c, hc, rfl⟩ := List.mem_map.1 hm
  rw [(Nat.prime_dvd_prime_iff_eq hq (hF c hc)).1 (hq.dvd_of_dvd_pow hd)]
  exact h2 c hc

/- The recipe, the same for every prime: `(by norm_num)` multiplies the prime powers out to `p - 1`, `(by reduce_mod_char)` evaluates
`a ^ (p - 1)` in `ZMod p`.  First bullet: the listed factors are prime (`norm_num` for the small ones, a theorem above for a large
one).  Second bullet: `norm_num` computes the exponents `(p - 1) / q`, `reduce_mod_char` the powers modulo `p`, and `decide` sees that
none of the residues is `1`. -/
theorem prime_18533742247 : Nat.Prime 18533742247 := by
  refine prime_of_pratt _ 6 [(2, 1), (3, 3), (181, 1), (1896229, 1)] ?_ (by norm_num) (by reduce_mod_char) ?_
  · simp only [List.forall_mem_cons]; norm_num
  · simp only [List.forall_mem_cons]; norm_num; reduce_mod_char; decide

theorem prime_733803839347 : Nat.Prime 733803839347 := by
  refine prime_of_pratt _ 2 [(2, 1), (3, 1), (2203, 1), (55515497, 1)] ?_ (by norm_num) (by reduce_mod_char) ?_
  · simp only [List.forall_mem_cons]; norm_num
  · simp only [List.forall_mem_cons]; norm_num; reduce_mod_char; decide

theorem prime_67280421310721 : Nat.Prime 67280421310721 := by
  refine prime_of_pratt _ 3 [(2, 8), (5, 1), (47, 1), (373, 1), (2998279, 1)] ?_ (by norm_num) (by reduce_mod_char) ?_
  · simp only [List.forall_mem_cons]; norm_num
  · simp only [List.forall_mem_cons]; norm_num; reduce_mod_char; decide

theorem prime_116503103764643 : Nat.Prime 116503103764643 := by
  refine prime_of_pratt _ 2 [(2, 1), (7, 1), (449, 1), (18533742247, 1)] ?_ (by norm_num) (by reduce_mod_char) ?_
  · simp only [List.forall_mem_cons, prime_18533742247]; norm_num
  · simp only [List.forall_mem_cons]; norm_num; reduce_mod_char; decide

theorem prime_59649589127497217 : Nat.Prime 59649589127497217 := by
  refine prime_of_pratt _ 3 [(2, 9), (116503103764643, 1)] ?_ (by norm_num) (by reduce_mod_char) ?_
  · simp only [List.forall_mem_cons, prime_116503103764643]; norm_num
  · simp only [List.forall_mem_cons]; norm_num; reduce_mod_char; decide

theorem prime_5704689200685129054721 : Nat.Prime 5704689200685129054721 := by
  refine prime_of_pratt _ 21 [(2, 9), (3, 5), (5, 1), (12497, 1), (733803839347, 1)] ?_ (by norm_num) (by reduce_mod_char) ?_
  · simp only [List.forall_mem_cons, prime_733803839347]; norm_num
  · simp only [List.forall_mem_cons]; norm_num; reduce_mod_char; decide
