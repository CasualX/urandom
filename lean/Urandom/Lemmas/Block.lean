import Urandom.Model.Block
/-
Two things about the buffered block generator of `Model/Block.lean`.  Generic, for any core: `nextN`, `fill` and hence `run` only ever
serve buffered elements, refill the buffer, or pass a whole batch straight through, so a predicate on (state, elements issued so far) that
these three moves preserve is preserved by every history (`Moves`, `run_moves`) - the induction principle the invariants of C03 rest on.
And the ghost instance: batches of positions `(stream, block counter, byte offset)` over unbounded logical counters, with the invariant
`Inv` that proves that no position is ever issued twice (core Lean only).
-/
namespace Urandom.Block

variable {κ β : Type}

@[simp] theorem take_zero (buf : Nat → β) (start : Nat) : take buf start 0 = [] := rfl

@[simp] theorem take_length (buf : Nat → β) (start n : Nat) : (take buf start n).length = n := by simp [take]

theorem mem_take {buf : Nat → β} {start n : Nat} {x : β} : x ∈ take buf start n ↔ ∃ i, i < n ∧ buf (start + i) = x := by
  simp [take]

@[simp] theorem refill_index (C : Core κ β) (s : BS κ β) : (refill C s).index = 0 := rfl

theorem direct_length (C : Core κ β) (k : Nat) : ∀ c : κ, (direct C k c).1.length = 256 * k := by
  induction k with
  | zero => intro c; rfl
  | succ k ih => intro c; simp only [direct, List.length_append, take_length, ih]; omega

theorem run_append (C : Core κ β) (a b : List Op) (s : BS κ β) :
    (run C s (a ++ b)).1 = (run C s a).1 ++ (run C (run C s a).2 b).1 := by
  induction a generalizing s with
  | nil => simp [run]
  | cons x a ih => simp [run, ih]

structure Moves (C : Core κ β) (P : BS κ β → List β → Prop) : Prop where
  serve : ∀ {s l}, P s l → ∀ n, s.index + n ≤ 256 → P { s with index := s.index + n } (l ++ take s.buf s.index n)
  refill : ∀ {s l}, P s l → P (refill C s) l
  direct : ∀ {s l}, P s l → P { s with core := (C.gen s.core).2 } (l ++ take (C.gen s.core).1 0 256)

section
variable {C : Core κ β} {P : BS κ β → List β → Prop} (hP : Moves C P)
include hP

theorem nextN_moves {s l} (h : P s l) (n : Nat) (hn : n ≤ 256) : P (nextN C n s).2 (l ++ (nextN C n s).1) := by
  unfold nextN
  split
  · exact hP.serve (hP.refill h) n (by rw [refill_index]; omega)
  · exact hP.serve h n (by omega)

theorem direct_moves (k : Nat) : ∀ {s l}, P s l → P { s with core := (direct C k s.core).2 } (l ++ (direct C k s.core).1) := by
  induction k with
  | zero => intro s l h; simpa [direct] using h
  | succ k ih =>
    intro s l h
    simpa [direct] using ih (hP.direct h)

theorem fillRem_moves {s l} (h : P s l) (len : Nat) (hl : len < 256) : P (fillRem C len s).2 (l ++ (fillRem C len s).1) := by
  unfold fillRem
  by_cases hidx : s.index < 256
  · simp only [show min s.index 256 = s.index by omega]
    split
    · exact hP.serve h len (by omega)
    · simpa [refill] using
        hP.serve (hP.refill (hP.serve h (256 - s.index) (by omega))) (len - (256 - s.index)) (by rw [refill_index]; omega)
  · -- nothing is buffered: the first part of the copy is empty
    simp only [show min s.index 256 = 256 by omega]
    split
    · obtain rfl : len = 0 := by omega
      simpa using h
    · simpa using hP.serve (hP.refill h) len (by rw [refill_index]; omega)

theorem fill_moves {s l} (h : P s l) (len : Nat) : P (fill C len s).2 (l ++ (fill C len s).1) := by
  unfold fill
  split
  · exact direct_moves hP _ h
  · simpa using fillRem_moves hP (direct_moves hP (len / 256) h) (len % 256) (Nat.mod_lt _ (by omega))

/-- the histories without `jump` need no hypothesis about it -/
theorem run_moves (ops : List Op) (hj : Op.jump ∈ ops → ∀ {s l}, P s l → P (jump C s) l) :
    ∀ {s l}, P s l → P (run C s ops).2 (l ++ (run C s ops).1) := by
  induction ops with
  | nil => intro s l h; simpa [run] using h
  | cons op ops ih =>
    intro s l h
    have h1 : P (stepOp C s op).2 (l ++ (stepOp C s op).1) := by
      cases op with
      | u32 => exact nextN_moves hP h 4 (by omega)
      | u64 => exact nextN_moves hP h 8 (by omega)
      | f32 => exact nextN_moves hP h 4 (by omega)
      | f64 => exact nextN_moves hP h 8 (by omega)
      | fill n => exact fill_moves hP h n
      | jump => simpa [stepOp] using hj (by simp) h
    simpa [run] using ih (fun hm => hj (List.mem_cons_of_mem _ hm)) h1

end

/-- a keystream position `(stream id, block counter, byte offset in the block)`; the counters are unbounded naturals, so that "later" is an
order (the 64-bit wrap-around of the real cipher is dealt with once, in `C03.no_reuse_actual`) -/
abbrev Pos := Nat × Nat × Nat
/-- the 256 positions of a batch: four consecutive blocks from counter `C` of stream `S` -/
def posBatch (S C : Nat) : Nat → Pos := fun i => (S, C + i / 64, i % 64)
/-- the core that issues positions instead of bytes: a batch advances the counter by 4, `jump` moves to the next stream id and keeps the counter -/
def posCore : Core (Nat × Nat) Pos where
  gen := fun (S, C) => (posBatch S C, (S, C + 4))
  jmp := fun (S, C) => (S + 1, C)

/-- `p` lies before the core position `(S, C)`: the core can never generate it again -/
def Past (S C : Nat) (p : Pos) : Prop := p.1 < S ∨ (p.1 = S ∧ p.2.1 < C)

/-- the invariant of C03: what is still unread in the buffer is the tail of one past batch of the current stream and has not been issued,
everything issued lies in the past of the core, and nothing was issued twice -/
structure Inv (s : BS (Nat × Nat) Pos) (issued : List Pos) : Prop where
  bufOk : s.index < 256 → ∃ Cb, Cb + 4 ≤ s.core.2 ∧ ∀ i, s.index ≤ i → i < 256 → s.buf i = posBatch s.core.1 Cb i
  past : ∀ p ∈ issued, Past s.core.1 s.core.2 p
  fresh : s.index < 256 → ∀ i, s.index ≤ i → i < 256 → s.buf i ∉ issued
  nodup : issued.Nodup

@[simp] theorem posCore_gen (c : Nat × Nat) : posCore.gen c = (posBatch c.1 c.2, (c.1, c.2 + 4)) := rfl
@[simp] theorem posCore_jmp (c : Nat × Nat) : posCore.jmp c = (c.1 + 1, c.2) := rfl

theorem posBatch_inj {S C i j : Nat} (h : posBatch S C i = posBatch S C j) : i = j := by
  simp only [posBatch, Prod.mk.injEq, true_and] at h
  omega

theorem Past.mono {S C S' C' : Nat} {p : Pos} (h : Past S C p) (hle : S < S' ∨ (S = S' ∧ C ≤ C')) : Past S' C' p := by
  unfold Past at *
  omega

/-! a slice `a .. a + n` of the batch `(S, Cb)` appended to what was issued before -/

theorem past_slice {S Cb C a n : Nat} (hC : Cb + 4 ≤ C) (han : a + n ≤ 256) : ∀ p ∈ take (posBatch S Cb) a n, Past S C p := by
  intro p hp
  obtain ⟨i, hi, rfl⟩ := mem_take.1 hp
  exact .inr ⟨rfl, by simp only [posBatch]; omega⟩

/-- a position of a batch is not in the past of the core that generates it -/
theorem not_past_posBatch (S C i : Nat) : ¬ Past S C (posBatch S C i) := by
  simp only [Past, posBatch]; omega

theorem nodup_append_slice {l : List Pos} {S Cb a n : Nat} (hl : l.Nodup)
    (hnew : ∀ i, a ≤ i → i < a + n → posBatch S Cb i ∉ l) : (l ++ take (posBatch S Cb) a n).Nodup := by
  rw [List.nodup_append]
  refine ⟨hl, ?_, ?_⟩
  · unfold take
    rw [List.Nodup, List.pairwise_map]
    refine List.Pairwise.imp_of_mem ?_ (List.pairwise_lt_range (n := n))
    intro i j _ _ hij e
    have := posBatch_inj e
    omega
  · intro x hx y hy e
    subst e
    obtain ⟨i, hi, rfl⟩ := mem_take.1 hy
    exact hnew _ (by omega) (by omega) hx

theorem serve_inv {s : BS (Nat × Nat) Pos} {issued : List Pos} (h : Inv s issued) (n : Nat) (hn : s.index + n ≤ 256) :
    Inv { s with index := s.index + n } (issued ++ take s.buf s.index n) := by
  by_cases hn0 : n = 0
  · subst hn0
    simpa using h
  have hidx : s.index < 256 := by omega
  obtain ⟨Cb, hCb, hbuf⟩ := h.bufOk hidx
  have e : take s.buf s.index n = take (posBatch s.core.1 Cb) s.index n :=
    List.map_congr_left fun i hi => hbuf _ (by omega) (by simp at hi; omega)
  rw [e]
  refine ⟨fun _ => ⟨Cb, hCb, fun i hi => hbuf i (by simp at hi; omega)⟩, ?_, ?_, ?_⟩
  · intro p hp
    exact (List.mem_append.1 hp).elim (h.past p) (past_slice hCb hn p)
  · intro _ i hi hi' hm
    simp only at hi
    rcases List.mem_append.1 hm with hm | hm
    · exact h.fresh hidx i (by omega) hi' hm
    · obtain ⟨j, hj, e⟩ := mem_take.1 hm
      rw [hbuf i (by omega) hi'] at e
      have := posBatch_inj e
      omega
  · exact nodup_append_slice h.nodup fun i hi hi' => hbuf i hi (by omega) ▸ h.fresh hidx i hi (by omega)

theorem refill_inv {s : BS (Nat × Nat) Pos} {issued : List Pos} (h : Inv s issued) : Inv (refill posCore s) issued :=
  ⟨fun _ => ⟨s.core.2, Nat.le_refl _, fun i _ _ => rfl⟩, fun p hp => (h.past p hp).mono (.inr ⟨rfl, Nat.le_add_right _ _⟩),
    fun _ i _ _ hmem => not_past_posBatch _ _ i (h.past _ hmem), h.nodup⟩

theorem jump_inv {s : BS (Nat × Nat) Pos} {issued : List Pos} (h : Inv s issued) : Inv (jump posCore s) issued :=
  ⟨fun hlt => by simp [jump] at hlt, fun p hp => (h.past p hp).mono (.inl (Nat.lt_succ_self _)),
    fun hlt => by simp [jump] at hlt, h.nodup⟩

/-- one whole batch written straight to the destination -/
theorem directOne_inv {s : BS (Nat × Nat) Pos} {issued : List Pos} (h : Inv s issued) :
    Inv { s with core := (posCore.gen s.core).2 } (issued ++ take (posCore.gen s.core).1 0 256) := by
  simp only [posCore_gen]
  have hnew : ∀ i, posBatch s.core.1 s.core.2 i ∉ issued := fun i hm => not_past_posBatch _ _ i (h.past _ hm)
  refine ⟨fun hlt => (h.bufOk hlt).imp fun Cb ⟨a, b⟩ => ⟨Nat.le_trans a (Nat.le_add_right _ _), b⟩, ?_, ?_,
    nodup_append_slice h.nodup fun i _ _ => hnew i⟩
  · intro p hp
    exact (List.mem_append.1 hp).elim (fun hp => (h.past p hp).mono (.inr ⟨rfl, Nat.le_add_right _ _⟩))
      (past_slice (Nat.le_refl _) (Nat.le_refl _) p)
  · intro hlt i hi hi' hm
    rcases List.mem_append.1 hm with hm | hm
    · exact h.fresh hlt i hi hi' hm
    · -- the buffered batch `Cb` is older than the one written now
      obtain ⟨Cb, hCb, hb⟩ := h.bufOk hlt
      obtain ⟨j, hj, e⟩ := mem_take.1 hm
      rw [hb i hi hi'] at e
      simp only [posBatch, Prod.mk.injEq, true_and] at e hCb
      omega

theorem inv_moves : Moves posCore Inv := ⟨serve_inv, refill_inv, directOne_inv⟩

theorem nextN_inv {s : BS (Nat × Nat) Pos} {issued : List Pos} (h : Inv s issued) (n : Nat) (hn : n ≤ 256) :
    Inv (nextN posCore n s).2 (issued ++ (nextN posCore n s).1) :=
  nextN_moves inv_moves h n hn

theorem direct_inv (k : Nat) : ∀ {s : BS (Nat × Nat) Pos} {issued : List Pos}, Inv s issued →
    Inv { s with core := (direct posCore k s.core).2 } (issued ++ (direct posCore k s.core).1) :=
  direct_moves inv_moves k

theorem fillRem_inv {s : BS (Nat × Nat) Pos} {issued : List Pos} (h : Inv s issued) (len : Nat) (hl : len < 256) :
    Inv (fillRem posCore len s).2 (issued ++ (fillRem posCore len s).1) :=
  fillRem_moves inv_moves h len hl

theorem fill_inv {s : BS (Nat × Nat) Pos} {issued : List Pos} (h : Inv s issued) (len : Nat) :
    Inv (fill posCore len s).2 (issued ++ (fill posCore len s).1) :=
  fill_moves inv_moves h len

theorem run_inv (ops : List Op) : ∀ {s : BS (Nat × Nat) Pos} {issued : List Pos}, Inv s issued →
    Inv (run posCore s ops).2 (issued ++ (run posCore s ops).1) :=
  run_moves inv_moves ops fun _ => jump_inv

/-- `index ≥ 256`: freshly constructed, just deserialised without buffer, or just jumped; the stale content of the buffer does not matter -/
theorem empty_inv (c : Nat × Nat) (idx : Nat) (hidx : 256 ≤ idx) (buf : Nat → Pos) : Inv ⟨c, idx, buf⟩ [] :=
  ⟨fun h => absurd h (by simp; omega), fun _ h => by simp at h, fun h => absurd h (by simp; omega), List.nodup_nil⟩

theorem no_reuse_from_empty (S C idx : Nat) (hidx : 256 ≤ idx) (buf : Nat → Pos) (ops : List Op) :
    (run posCore ⟨(S, C), idx, buf⟩ ops).1.Nodup := by
  simpa using (run_inv ops (empty_inv (S, C) idx hidx buf)).nodup

/-- C03: no keystream position is issued twice, for every operation history -/
theorem no_reuse (S C : Nat) (buf : Nat → Pos) (ops : List Op) :
    (run posCore ⟨(S, C), 2 ^ 32 - 1, buf⟩ ops).1.Nodup :=
  no_reuse_from_empty S C _ (by omega) buf ops

end Urandom.Block
