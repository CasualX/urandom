import Urandom.Model.Word
/- SplitMix64's finaliser `mix64` is injective on the 64-bit words, with `mix64 0 = 0`:
an explicit left inverse from xorshift inverses and the modular inverses of the two odd multipliers. -/
namespace Urandom.SplitMix

/-- inverse of `z ^^^ (z >>> k)` for 22 ≤ k (three terms suffice for 64 bits) -/
def xsInv (k : Nat) (y : BitVec 64) : BitVec 64 := y ^^^ (y >>> k) ^^^ (y >>> (2 * k))

theorem xsInv_xs (k : Nat) (hk : 22 ≤ k) (z : BitVec 64) : xsInv k (xs k z) = z := by
  unfold xsInv xs
  simp only [BitVec.ushiftRight_xor_distrib, ← BitVec.shiftRight_add]
  have h3 : z >>> (k + 2 * k) = 0 := BitVec.ushiftRight_eq_zero (by omega)
  have e : k + k = 2 * k := by omega
  rw [e, h3]
  generalize z >>> k = a
  generalize z >>> (2 * k) = b
  calc z ^^^ a ^^^ (a ^^^ b) ^^^ (b ^^^ 0) = z ^^^ (a ^^^ a) ^^^ (b ^^^ b) ^^^ 0 := by ac_rfl
    _ = z := by simp

def m1inv : BitVec 64 := 0x96de1b173f119089#64
def m2inv : BitVec 64 := 0x319642b2d24d8ec3#64
theorem m1_inv : 0xbf58476d1ce4e5b9#64 * m1inv = 1 := by decide
theorem m2_inv : 0x94d049bb133111eb#64 * m2inv = 1 := by decide

def unmix64 (y : BitVec 64) : BitVec 64 :=
  let z := xsInv 31 y
  let z := xsInv 27 (z * m2inv)
  xsInv 30 (z * m1inv)

theorem unmix_mix (z : BitVec 64) : unmix64 (mix64 z) = z := by
  unfold unmix64 mix64
  simp only
  have e1 : ∀ x : BitVec 64, x * 0x94d049bb133111eb#64 * m2inv = x := fun x => by
    rw [BitVec.mul_assoc, m2_inv]; exact BitVec.mul_one x
  have e2 : ∀ x : BitVec 64, x * 0xbf58476d1ce4e5b9#64 * m1inv = x := fun x => by
    rw [BitVec.mul_assoc, m1_inv]; exact BitVec.mul_one x
  rw [xsInv_xs 31 (by omega), e1, xsInv_xs 27 (by omega), e2, xsInv_xs 30 (by omega)]

theorem mix64_injective : Function.Injective mix64 := Function.LeftInverse.injective unmix_mix

theorem mix64_zero : mix64 0#64 = 0#64 := by
  have h : ∀ k, xs k 0#64 = 0#64 := fun k => by simp [xs]
  simp [mix64, h]

end Urandom.SplitMix
