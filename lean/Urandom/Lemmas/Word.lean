import Urandom.Lemmas.Iter
/- Facts about the word generators of `Model/Word`: the closed form of a Weyl sequence `x ↦ x + c` on 64 bits (the state
maps of SplitMix64 and Wyrand) with their jumps, and the bit loop of xoshiro's `jump` as a fold. -/
namespace Urandom
open Urandom.Spec (iter)

theorem iter_weyl (c : BitVec 64) (n : Nat) (x : BitVec 64) :
    iter (fun x => x + c) n x = x + BitVec.ofNat 64 n * c := by
  induction n generalizing x with
  | zero => simp [iter]
  | succ n ih =>
    show iter (fun x => x + c) n (x + c) = _
    rw [ih, BitVec.ofNat_add, BitVec.add_mul, BitVec.one_mul, BitVec.add_assoc, BitVec.add_comm c]

/-- the jumps of SplitMix64 and Wyrand (`k = 40`): adding `c <<< k` is `2^k` steps of `x ↦ x + c` -/
theorem weyl_jump (c x : BitVec 64) (k : Nat) : x + (c <<< k) = iter (fun x => x + c) (2 ^ k) x := by
  rw [iter_weyl, BitVec.shiftLeft_eq_mul_twoPow, BitVec.mul_comm, show BitVec.twoPow 64 k = BitVec.ofNat 64 (2 ^ k) from
    BitVec.eq_of_toNat_eq (by simp)]

theorem Xoshiro.jumpWord_eq_foldl (w : BitVec 64) (n b : Nat) (st : Xoshiro.S × Xoshiro.S) :
    Xoshiro.jumpWord w n b st = (List.range' b n).foldl (fun st b => Xoshiro.jumpBit w b st) st := by
  induction n generalizing b st with
  | zero => rfl
  | succ n ih => exact ih _ _

end Urandom
