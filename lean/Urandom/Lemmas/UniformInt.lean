import Urandom.Model.UniformInt
/-
Lemmas about the `UniformInt` model: wrapping range arithmetic for signed and unsigned types,
and the characterisation of the sampling loop with its lazily computed `zone`; at the end, in `namespace C04`, the vocabulary the
property modules share (`Valid`, `lowB`, `toInt_rep`, `tryNew_unsigned`).
-/
namespace Urandom

theorem mod_lt2 (a M : Nat) (h : a < 2 * M) : (a < M ∧ a % M = a) ∨ (M ≤ a ∧ a % M = a - M) := by
  by_cases h1 : a < M
  · exact Or.inl ⟨h1, Nat.mod_eq_of_lt h1⟩
  · right
    refine ⟨by omega, ?_⟩
    rw [Nat.mod_eq_sub_mod (by omega)]; exact Nat.mod_eq_of_lt (by omega)

/-- two's-complement value of the bit pattern `x < M` -/
def sInt (M x : Nat) : Int := if 2 * x < M then (x : Int) else (x : Int) - M

theorem sInt_cases (M x : Nat) : (2 * x < M ∧ sInt M x = x) ∨ (M ≤ 2 * x ∧ sInt M x = (x : Int) - M) := by
  unfold sInt; split
  · exact Or.inl ⟨‹_›, rfl⟩
  · exact Or.inr ⟨by omega, rfl⟩

theorem IntTy.toInt_signed (t : IntTy) (h : t.signed = true) (x : Nat) : t.toInt x = sInt t.M x := by
  simp [IntTy.toInt, h, sInt]
theorem IntTy.toInt_unsigned (t : IntTy) (h : t.signed = false) (x : Nat) : t.toInt x = (x : Int) := by
  simp [IntTy.toInt, h]

theorem wsub_lt (M hi lo : Nat) (hM : 0 < M) : wsub M hi lo < M := Nat.mod_lt _ hM
theorem wadd_lt (M a b : Nat) (hM : 0 < M) : wadd M a b < M := Nat.mod_lt _ hM

theorem wadd_inj (M a m₁ m₂ : Nat) (h₁ : m₁ < M) (h₂ : m₂ < M) (ha : a < M)
    (h : wadd M a m₁ = wadd M a m₂) : m₁ = m₂ := by
  unfold wadd at h
  rcases mod_lt2 (a + m₁) M (by omega) with ⟨c1, c2⟩ | ⟨c1, c2⟩ <;>
    rcases mod_lt2 (a + m₂) M (by omega) with ⟨d1, d2⟩ | ⟨d1, d2⟩ <;>
    (rw [c2, d2] at h; omega)

theorem wsub_spec (M hi lo : Nat) (hlo : lo < M) (hhi : hi < M) :
    wsub M hi lo < M ∧ ((wsub M hi lo : Int) = (hi : Int) - lo ∨ (wsub M hi lo : Int) = (hi : Int) - lo + M) := by
  unfold wsub
  rcases mod_lt2 (hi + M - lo) M (by omega) with ⟨c1, c2⟩ | ⟨c1, c2⟩ <;> (rw [c2]; omega)

theorem wadd_spec (M a b : Nat) (ha : a < M) (hb : b ≤ M) :
    wadd M a b < M ∧ ((wadd M a b : Int) = (a : Int) + b ∨ (wadd M a b : Int) = (a : Int) + b - M) := by
  unfold wadd
  rcases mod_lt2 (a + b) M (by omega) with ⟨c1, c2⟩ | ⟨c1, c2⟩ <;> (rw [c2]; omega)

/-- `z` is the representative of the bit pattern `x` modulo `M` in the window `[L, L + M)`: the typed value of `x` in an integer type
with `M` values of which `L` is the least (`L = 0` unsigned, `L = -M/2` signed) -/
structure Rep (M : Nat) (L z : Int) (x : Nat) : Prop where
  lb : L ≤ z
  ub : z < L + M
  repr : z = x ∨ z = (x : Int) - M

theorem Rep.unique {M : Nat} {L z z' : Int} {x : Nat} (h : Rep M L z x) (h' : Rep M L z' x) : z = z' := by
  obtain ⟨a1, a2, a3⟩ := h
  obtain ⟨b1, b2, b3⟩ := h'
  rcases a3 with a3 | a3 <;> rcases b3 with b3 | b3 <;> omega

theorem Rep.wsub {M : Nat} {L zlo zhi : Int} {lo hi : Nat} (a : Rep M L zlo lo) (b : Rep M L zhi hi) (hlo : lo < M) (hhi : hi < M)
    (h : zlo ≤ zhi) : ((wsub M hi lo : Nat) : Int) = zhi - zlo := by
  obtain ⟨a1, a2, a3⟩ := a
  obtain ⟨b1, b2, b3⟩ := b
  obtain ⟨s1, s2⟩ := wsub_spec M hi lo hlo hhi
  rcases a3 with a3 | a3 <;> rcases b3 with b3 | b3 <;> rcases s2 with s2 | s2 <;> omega

theorem Rep.wadd {M : Nat} {L z : Int} {a m : Nat} (h : Rep M L z a) (hL : L ≤ 0) (ha : a < M) (hm : z + m < L + M) : Rep M L (z + m) (wadd M a m) := by
  obtain ⟨a1, a2, a3⟩ := h
  obtain ⟨w1, w2⟩ := wadd_spec M a m ha (by omega)
  refine ⟨by omega, hm, ?_⟩
  rcases a3 with a3 | a3 <;> rcases w2 with w2 | w2 <;> omega

theorem sInt_rep (M H x : Nat) (hM : M = 2 * H) (hx : x < M) : Rep M (-(H : Int)) (sInt M x) x := by
  rcases sInt_cases M x with ⟨a1, a2⟩ | ⟨a1, a2⟩ <;> exact ⟨by omega, by omega, by omega⟩

theorem range_signed (M H lo hi : Nat) (hM : M = 2 * H) (hlo : lo < M) (hhi : hi < M)
    (h : sInt M lo < sInt M hi) :
    ((wsub M hi lo : Nat) : Int) = sInt M hi - sInt M lo ∧ 0 < wsub M hi lo := by
  have := (sInt_rep M H lo hM hlo).wsub (sInt_rep M H hi hM hhi) hlo hhi (by omega)
  exact ⟨this, by omega⟩

namespace UniformInt

theorem tryNew_ok_eq (t : IntTy) (lo hi : Nat) (incl : Bool) (d : UniformInt) (h : tryNew t lo hi incl = .ok d) :
    d = ⟨lo, if incl then wadd t.M (wsub t.M hi lo) 1 else wsub t.M hi lo⟩ ∧
      (if incl then t.toInt lo ≤ t.toInt hi else t.toInt lo < t.toInt hi) := by
  -- in either branch `h` reads `(if <empty> then error else ok d₀) = ok d`
  have key : ∀ {c : Prop} [Decidable c] {d₀ : UniformInt},
      (if c then Except.error UniformError.EmptyRange else Except.ok d₀) = Except.ok d → d = d₀ ∧ ¬ c := fun h => by
    split at h
    · cases h
    · exact ⟨(Except.ok.inj h).symm, ‹_›⟩
  unfold tryNew at h
  cases incl
  · simp only [Bool.false_eq_true, ↓reduceIte] at h ⊢; exact (key h).imp_right Int.not_le.1
  · simp only [↓reduceIte] at h ⊢; exact (key h).imp_right Int.not_lt.1

/-- acceptance criterion of Lemire's method, independent of the loop's history -/
def Accepts (t : IntTy) (r v : Nat) : Prop := t.B % r ≤ v * r % t.B
instance (t : IntTy) (r v : Nat) : Decidable (Accepts t r v) := by unfold Accepts; infer_instance

/-- `self.base.wrapping_add(msw as $ty)` -/
def valueOf (t : IntTy) (d : UniformInt) (v : Nat) : Nat := wadd t.M d.base (v * d.range / t.B % t.M)

/-- the lazily computed `zone` does not matter: whether it is still `range` or already `2^L mod range`, the same words are
accepted, and a rejection leaves `2^L mod range` -/
theorem iteration_eq (t : IntTy) (d : UniformInt) (zone v : Nat) (hr : 0 < d.range) (hrB : d.range ≤ t.B)
    (hz : zone = d.range ∨ zone = t.B % d.range) :
    iteration t d zone v =
      if Accepts t d.range v then .inl (valueOf t d v) else .inr (t.B % d.range) := by
  have hmod : t.B % d.range < d.range := Nat.mod_lt _ hr
  have hz' : (t.B - d.range) % d.range = t.B % d.range := (Nat.mod_eq_sub_mod hrB).symm
  unfold iteration Accepts valueOf
  simp only [Nat.ne_of_gt hr, ↓reduceIte, hz', ge_iff_le]
  rcases hz with rfl | rfl
  · by_cases h1 : d.range ≤ v * d.range % t.B
    · have : t.B % d.range ≤ v * d.range % t.B := by omega
      simp [h1, this]
    · by_cases h2 : t.B % d.range ≤ v * d.range % t.B <;> simp [h1, h2]
  · by_cases h2 : t.B % d.range ≤ v * d.range % t.B
    · simp [h2]
    · have : t.B % d.range ≠ d.range := by omega
      simp [h2, this]

/-- the declarative reading of `sample`: the first accepted word decides -/
def firstAccepted (t : IntTy) (d : UniformInt) : Draw Nat
  | [] => none
  | w :: ws =>
    if Accepts t d.range (wordValue t w) then some (valueOf t d (wordValue t w), ws)
    else firstAccepted t d ws

theorem sampleLoop_eq (t : IntTy) (d : UniformInt) (hr : 0 < d.range) (hrB : d.range ≤ t.B) :
    ∀ (ws : Words) (zone : Nat), (zone = d.range ∨ zone = t.B % d.range) →
      sampleLoop t d zone ws = firstAccepted t d ws := by
  intro ws
  induction ws with
  | nil => intro _ _; rfl
  | cons w ws ih =>
    intro zone hz
    simp only [sampleLoop, firstAccepted, iteration_eq t d zone _ hr hrB hz]
    by_cases ha : Accepts t d.range (wordValue t w)
    · simp [ha]
    · simp only [ha, ↓reduceIte]
      exact ih _ (Or.inr rfl)

theorem sample_eq (t : IntTy) (d : UniformInt) (hr : 0 < d.range) (hrB : d.range ≤ t.B) (ws : Words) :
    sample t d ws = firstAccepted t d ws := sampleLoop_eq t d hr hrB ws _ (Or.inl rfl)

theorem sample_full (t : IntTy) (d : UniformInt) (hr : d.range = 0) (w : BitVec 64) (ws : Words) :
    sample t d (w :: ws) = some (wordValue t w % t.M, ws) := by
  simp [sample, sampleLoop, iteration, hr]

theorem wordValue_lt (t : IntTy) (w : BitVec 64) : wordValue t w < t.B :=
  Nat.mod_lt _ (Nat.two_pow_pos _)

end UniformInt
namespace C04
open UniformInt

/-- A legal instantiation of `impl_uniform_int!`: at least one value bit, and the drawn word is
at least as wide as the value. -/
structure Valid (t : IntTy) : Prop where
  pos : 0 < t.bits
  le : t.bits ≤ t.wbits

def H (t : IntTy) : Nat := 2 ^ (t.bits - 1)
theorem M_eq (t : IntTy) (hv : Valid t) : t.M = 2 * H t := by
  rw [IntTy.M, H, Nat.mul_comm, Nat.two_pow_pred_mul_two hv.pos]
theorem M_pos (t : IntTy) : 0 < t.M := Nat.two_pow_pos _
theorem B_pos (t : IntTy) : 0 < t.B := Nat.two_pow_pos _
theorem M_le_B (t : IntTy) (hv : Valid t) : t.M ≤ t.B := Nat.pow_le_pow_right (by decide) hv.le

/-- lower end of the type's interval of values -/
def lowB (t : IntTy) : Int := if t.signed then -(H t : Int) else 0

/-- the typed value is the representative of the bit pattern modulo `2^b` in the type's window `[lowB, lowB + 2^b)`;
signed and unsigned types differ in `lowB` only -/
theorem toInt_rep (t : IntTy) (hv : Valid t) (x : Nat) (hx : x < t.M) : Rep t.M (lowB t) (t.toInt x) x := by
  unfold lowB
  cases hs : t.signed
  · rw [IntTy.toInt_unsigned t hs]
    exact ⟨by simp, by simpa using hx, .inl rfl⟩
  · rw [IntTy.toInt_signed t hs]
    exact sInt_rep t.M (H t) x (M_eq t hv) hx

theorem lowB_le (t : IntTy) : lowB t ≤ 0 := by unfold lowB; split <;> omega

theorem tryNew_unsigned (t : IntTy) (hs : t.signed = false) (lo hi : Nat) (hhi : hi < t.M) (incl : Bool)
    (h : if incl then lo ≤ hi else lo < hi) :
    tryNew t lo hi incl = .ok ⟨lo, if incl then (hi - lo + 1) % t.M else hi - lo⟩ := by
  have hw : lo ≤ hi → wsub t.M hi lo = hi - lo := fun hle => by
    have := wsub_spec t.M hi lo (by omega) hhi; omega
  unfold tryNew
  rw [IntTy.toInt_unsigned t hs, IntTy.toInt_unsigned t hs]
  cases incl
  · simp only [Bool.false_eq_true, ↓reduceIte] at h ⊢; rw [if_neg (by omega), hw (by omega)]
  · simp only [↓reduceIte] at h ⊢; rw [if_neg (by omega), hw h]; rfl

end C04
end Urandom
