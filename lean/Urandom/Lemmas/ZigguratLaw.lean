import Mathlib.MeasureTheory.Measure.Lebesgue.Basic
import Mathlib.Probability.ConditionalProbability
import Mathlib.MeasureTheory.Measure.WithDensity
/-
The law of the ziggurat method, for the idealised algorithm (exact real arithmetic, exactly uniform
draws): Mathlib measure theory.  `ziggurat_law` is the classical argument -
  equal-area disjoint layers + a uniform layer index + a uniform point in the layer  = a uniform point of the cover;
  keeping it only if it lies under the curve (else starting over)                    = a uniform point under the curve;
  the abscissa of a uniform point under the curve                                    has density f / ∫ f.
-/
open MeasureTheory ProbabilityTheory Set ENNReal

namespace Urandom.ZigLaw

def under (f : ℝ → ℝ) : Set (ℝ × ℝ) := regionBetween 0 f univ

theorem measurableSet_under (f : ℝ → ℝ) (hf : Measurable f) : MeasurableSet (under f) :=
  measurableSet_regionBetween measurable_zero hf MeasurableSet.univ

theorem map_fst_restrict_regionBetween (g : ℝ → ℝ) (hg : Measurable g) {A : Set ℝ} (hA : MeasurableSet A) :
    Measure.map Prod.fst ((volume : Measure (ℝ × ℝ)).restrict (regionBetween 0 g A)) =
      ((volume : Measure ℝ).restrict A).withDensity (fun x => ENNReal.ofReal (g x)) := by
  ext s hs
  have h1 : Prod.fst ⁻¹' s ∩ regionBetween 0 g A = regionBetween 0 g (s ∩ A) := by
    ext p
    simp only [regionBetween, mem_inter_iff, mem_preimage, mem_ofPred_eq, and_assoc]
  rw [Measure.map_apply measurable_fst hs, Measure.restrict_apply (measurable_fst hs), withDensity_apply _ hs,
    Measure.restrict_restrict hs, h1, Measure.volume_eq_prod,
    volume_regionBetween_eq_lintegral' measurable_zero hg (hs.inter hA), sub_zero]

theorem map_fst_restrict_under (f : ℝ → ℝ) (hf : Measurable f) :
    Measure.map Prod.fst ((volume : Measure (ℝ × ℝ)).restrict (under f)) =
      (volume : Measure ℝ).withDensity (fun x => ENNReal.ofReal (f x)) := by
  rw [under, map_fst_restrict_regionBetween f hf .univ, Measure.restrict_univ]

theorem volume_iUnion_layers {n : ℕ} (R : Fin n → Set (ℝ × ℝ)) (hR : ∀ i, MeasurableSet (R i))
    (hd : Pairwise (Function.onFun Disjoint R)) (v : ℝ≥0∞) (hv : ∀ i, volume (R i) = v) :
    volume (⋃ i, R i) = n * v := by
  rw [measure_iUnion hd hR, tsum_fintype]
  simp [hv]

theorem mixture_eq_uniform_union {n : ℕ} (R : Fin n → Set (ℝ × ℝ)) (hR : ∀ i, MeasurableSet (R i))
    (hd : Pairwise (Function.onFun Disjoint R)) (v : ℝ≥0∞) (hv : ∀ i, volume (R i) = v)
    (hn : 0 < n) :
    (n : ℝ≥0∞)⁻¹ • ∑ i, (volume : Measure (ℝ × ℝ))[|R i] = (volume : Measure (ℝ × ℝ))[|⋃ i, R i] := by
  have hn0 : (n : ℝ≥0∞) ≠ 0 := by exact_mod_cast hn.ne'
  have hnt : (n : ℝ≥0∞) ≠ ∞ := ENNReal.natCast_ne_top n
  unfold ProbabilityTheory.cond
  rw [volume_iUnion_layers R hR hd v hv, Measure.restrict_iUnion hd hR, Measure.sum_fintype]
  simp only [hv]
  rw [← Finset.smul_sum, smul_smul, ENNReal.mul_inv (Or.inl hn0) (Or.inl hnt)]

/-- `R i` are the layers; conditioning on `under f` is the rejection loop -/
theorem ziggurat_law {n : ℕ} (f : ℝ → ℝ) (hf : Measurable f)
    (R : Fin n → Set (ℝ × ℝ)) (hR : ∀ i, MeasurableSet (R i))
    (hd : Pairwise (Function.onFun Disjoint R)) (v : ℝ≥0∞) (hv : ∀ i, volume (R i) = v) (hvt : v ≠ ∞)
    (hn : 0 < n) (hcover : under f ⊆ ⋃ i, R i) :
    Measure.map Prod.fst (((n : ℝ≥0∞)⁻¹ • ∑ i, (volume : Measure (ℝ × ℝ))[|R i])[|under f]) =
      (∫⁻ x, ENNReal.ofReal (f x))⁻¹ • (volume : Measure ℝ).withDensity (fun x => ENNReal.ofReal (f x)) := by
  have hUt : volume (⋃ i, R i) ≠ ∞ := by
    rw [volume_iUnion_layers R hR hd v hv]; exact ENNReal.mul_ne_top (ENNReal.natCast_ne_top n) hvt
  rw [mixture_eq_uniform_union R hR hd v hv hn,
    cond_cond_eq_cond_inter' (MeasurableSet.iUnion hR) (measurableSet_under f hf) hUt,
    Set.inter_eq_right.2 hcover]
  unfold ProbabilityTheory.cond
  rw [Measure.map_smul, map_fst_restrict_under f hf]
  congr 2
  have := volume_regionBetween_eq_lintegral' (μ := (volume : Measure ℝ)) measurable_zero hf MeasurableSet.univ
  rw [Measure.restrict_univ] at this
  rw [under, Measure.volume_eq_prod, this, sub_zero]

end Urandom.ZigLaw
