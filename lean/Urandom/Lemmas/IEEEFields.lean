import Urandom.Model.IEEE
/-
Decoding a word that is given by its three fields.  Without Mathlib, like the model, so that modules
which state their theorems without Mathlib (`Props/C11`) can use it.
-/
namespace Urandom.IEEE

theorem pack_lt {eb mb E r : Nat} (hE : E < 2 ^ eb) (hr : r < 2 ^ mb) : E * 2 ^ mb + r < 2 ^ (eb + mb) :=
  calc E * 2 ^ mb + r < E * 2 ^ mb + 2 ^ mb := Nat.add_lt_add_left hr _
    _ = (E + 1) * 2 ^ mb := (Nat.succ_mul _ _).symm
    _ ≤ 2 ^ eb * 2 ^ mb := Nat.mul_le_mul_right _ hE
    _ = 2 ^ (eb + mb) := (Nat.pow_add 2 eb mb).symm

theorem fields_nat (eb mb σ E r : Nat) (hσ : σ ≤ 1) (hE : E < 2 ^ eb) (hr : r < 2 ^ mb) :
    (σ * 2 ^ (eb + mb) + E * 2 ^ mb + r).testBit (eb + mb) = decide (σ = 1) ∧
    ((σ * 2 ^ (eb + mb) + E * 2 ^ mb + r) >>> mb) % 2 ^ eb = E ∧
    (σ * 2 ^ (eb + mb) + E * 2 ^ mb + r) % 2 ^ mb = r := by
  have hA : 0 < 2 ^ mb := Nat.two_pow_pos mb
  have hx : σ * 2 ^ (eb + mb) + E * 2 ^ mb + r = r + (σ * 2 ^ eb + E) * 2 ^ mb := by
    rw [Nat.pow_add, Nat.add_mul, Nat.mul_assoc]; omega
  refine ⟨?_, ?_, ?_⟩
  · rw [Nat.testBit_eq_decide_div_mod_eq, Nat.add_assoc, Nat.add_comm,
      Nat.add_mul_div_right _ _ (Nat.two_pow_pos _), Nat.div_eq_of_lt (pack_lt hE hr)]
    obtain rfl | rfl : σ = 0 ∨ σ = 1 := by omega
    all_goals rfl
  · rw [Nat.shiftRight_eq_div_pow, hx, Nat.add_mul_div_right _ _ hA, Nat.div_eq_of_lt hr, Nat.zero_add,
      Nat.add_comm, Nat.add_mul_mod_self_right, Nat.mod_eq_of_lt hE]
  · rw [hx, Nat.add_mul_mod_self_right, Nat.mod_eq_of_lt hr]

theorem decode_eq (f : Fmt) (bits : Nat) :
    decode f bits =
      if (bits >>> f.mb) % 2 ^ f.eb = f.emaxField then
        (if bits % 2 ^ f.mb = 0 then .inf (bits.testBit (f.eb + f.mb)) else .nan)
      else if (bits >>> f.mb) % 2 ^ f.eb = 0 then .fin (bits.testBit (f.eb + f.mb)) (bits % 2 ^ f.mb) f.emin
      else .fin (bits.testBit (f.eb + f.mb)) (2 ^ f.mb + bits % 2 ^ f.mb) ((((bits >>> f.mb) % 2 ^ f.eb : Nat) : Int) - f.bias - f.mb) := rfl

theorem emaxField_lt (f : Fmt) : f.emaxField < 2 ^ f.eb := Nat.sub_one_lt (Nat.ne_of_gt (Nat.two_pow_pos _))

theorem decode_fields (f : Fmt) (σ E r : Nat) (hσ : σ ≤ 1) (hE : E < 2 ^ f.eb) (hr : r < 2 ^ f.mb) :
    decode f (σ * 2 ^ (f.eb + f.mb) + E * 2 ^ f.mb + r) =
      if E = f.emaxField then (if r = 0 then .inf (decide (σ = 1)) else .nan)
      else if E = 0 then .fin (decide (σ = 1)) r f.emin
      else .fin (decide (σ = 1)) (2 ^ f.mb + r) ((E : Int) - f.bias - f.mb) := by
  obtain ⟨h1, h2, h3⟩ := fields_nat f.eb f.mb σ E r hσ hE hr
  rw [decode_eq, h1, h2, h3]

/-- the form the unit floats and `Float01` build -/
theorem decode_normal (f : Fmt) (E r : Nat) (h0 : E ≠ 0) (h1 : E < f.emaxField) (hr : r < 2 ^ f.mb) :
    decode f (E * 2 ^ f.mb + r) = .fin false (2 ^ f.mb + r) ((E : Int) - f.bias - f.mb) := by
  have h := decode_fields f 0 E r (Nat.zero_le 1) (Nat.lt_trans h1 (emaxField_lt f)) hr
  rwa [Nat.zero_mul, Nat.zero_add, if_neg (Nat.ne_of_lt h1), if_neg h0] at h

end Urandom.IEEE
