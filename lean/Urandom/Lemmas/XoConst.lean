import Urandom.Lemmas.XoshiroLinear
/- The order of `x` modulo the characteristic polynomial of xoshiro256 is `2^256 - 1`: certificate and kernel check. -/
namespace Urandom.XoLin
open Urandom.GF2

/-- `2^256 - 1` fixed as a core-Lean term: with Mathlib in scope the literal power elaborates differently -/
def Nper : Nat := 2 ^ 256 - 1

/-- The prime factors `q` of `2^256 - 1`, largest first (which keeps the shared powers in `orderCheck` short), each
with the inverse of `x^((2^256-1)/q) + 1` modulo `P` (extended Euclid, `tools/certs/gencerts.py`). -/
def periodCerts : List (Nat × Nat) :=
  [(5704689200685129054721, 0xca8fcba3c0dd08871d4e3f7290e3e7fb8436109b90a55fd4bc6fe9d31b611e5),
   (59649589127497217, 0x2b0b5d0e0d5dcbfd343a0c7c13920e58856efc82f8b6f3e99a6368bb225afce6),
   (67280421310721, 0xc3bc6f4888606c0bfb4a6ce96aa43d28506b49c1c962aba2928641dd24af8cf8),
   (6700417, 0x1c10854fe79f6066b6b1fe5c68be2282e701b5777ef01c8fd5b0ea5458d18c36),
   (274177, 0x24d5461cfd63732f63b6b60adc840b312db07c0c8c7b46872d3955d70f9e6ac5),
   (65537, 0x5b7382b05dc5a20686e618650a39fab806017ce589bb2d98cf9b5a05139e793f),
   (641, 0x56ced9120f236c15fdd49ed161d46abc0269afa58693de573c5dcc0645c4b0ff),
   (257, 0x618e9a9a97b4105e9870464ee696824b10a336ec58f59159b1165cabfe23cd76),
   (17, 0xf4646ef27133b2d46393a4c40448d75b8f3adcab0a20793ef8bb26f5b81e7ecf),
   (5, 0x9b17f5767b72e1a3c673d4c3e369b20235e972559753b37fdedc95dc103781f),
   (3, 0x54d6a48aae687fb68b7f13ce6607e276afab085596734aa97762f281b25ed783)]

theorem periodCerts_prod : (periodCerts.map (·.1)).prod = Nper := by decide +kernel

theorem periodCerts_ok : orderCheck P 256 periodCerts 2 = true := by decide +kernel

end Urandom.XoLin
