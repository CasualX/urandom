import Urandom.Lemmas.Block
import Urandom.Generated.EffectBlockFill
import Urandom.Lemmas.BitVecNat
/-!
Lemmas for the translated `BlockRngImpl::fill_bytes` (`Props/C03T.lean`).  Both loops are executed symbolically: the `while` loop in closed
form (`while1_closed`; its events, run on a model state, are `direct`), the `loop` of the remainder round by round (`loop1_round`: one round, no bounds
flag is raised; `loop1_fits` / `loop1_spills`: it breaks after one or two rounds); its events, run on a model state, are `fillRem` (`loop1_run`).
-/
namespace Urandom.C03
open Urandom.Block Urandom.Generated

variable {κ β : Type}

/-- the state the events of a fill act on: the core, the block (`self.random`), the temporary block, the elements written to the destination
so far, and whether every copy so far went to the offset where the previous one ended (starting at 0) -/
structure FillSt (κ β : Type) where
  core : κ
  buf : Nat → β
  tmp : Nat → β
  out : List β
  contig : Bool

def stepFill (C : Core κ β) (st : FillSt κ β) : FillEv → FillSt κ β
  | .genTmp => { st with tmp := (C.gen st.core).1, core := (C.gen st.core).2 }
  | .genRandom => { st with buf := (C.gen st.core).1, core := (C.gen st.core).2 }
  | .copyTmp dst n => { st with out := st.out ++ take st.tmp 0 n.toNat, contig := st.contig && decide (dst.toNat = st.out.length) }
  | .copyRandom src dst n => { st with out := st.out ++ take st.buf src.toNat n.toNat, contig := st.contig && decide (dst.toNat = st.out.length) }

def runFill (C : Core κ β) (st : FillSt κ β) (evs : List FillEv) : FillSt κ β := evs.foldl (stepFill C) st

theorem runFill_append (C : Core κ β) (st : FillSt κ β) (a b : List FillEv) : runFill C st (a ++ b) = runFill C (runFill C st a) b := by
  simp [runFill]

/-- the event log of `k` rounds of the `while` loop -/
def whileEvents : Nat → BitVec 64 → List FillEv
  | 0, _ => []
  | k+1, off => .genTmp :: .copyTmp off 256#64 :: whileEvents k (off + 256#64)

theorem while1_closed : ∀ (fuel : Nat) (off len : BitVec 64) (log : List FillEv) (oob d : Bool),
    len.toNat / 256 < fuel →
    Effect.block.fill_bytes_while1 256#64 fuel (off, len, log, oob, d) =
      (off + BitVec.ofNat 64 (256 * (len.toNat / 256)), BitVec.ofNat 64 (len.toNat % 256), log ++ whileEvents (len.toNat / 256) off, oob, d) := by
  intro fuel
  induction fuel with
  | zero => intro _ _ _ _ _ h; omega
  | succ fuel ih =>
    intro off len log oob d h
    rw [Effect.block.fill_bytes_while1]
    by_cases hc : len ≥ 256#64
    · obtain ⟨k, hk, hq, hr⟩ := countdown_step (B := 256) (by omega) (by omega) hc
      have hno : ¬ (256#64 > len) := BitVec.not_lt.2 hc
      simp only [hc, if_true, hno, decide_false, Bool.or_false]
      rw [ih _ _ _ _ _ (by rw [hq]; omega), hq, hr, hk]
      simp only [whileEvents, List.append_assoc, List.cons_append, List.nil_append, add_ofNat_step]
    · obtain ⟨hq, hr⟩ := countdown_exit (B := 256) (by omega) hc
      simp [hc, hq, hr, whileEvents]

theorem runFill_whileEvents (C : Core κ β) : ∀ (k : Nat) (off : BitVec 64) (st : FillSt κ β),
    st.contig = true → off.toNat = st.out.length → off.toNat + 256 * k < 2 ^ 64 →
    ∃ tmp', runFill C st (whileEvents k off) = ⟨(direct C k st.core).2, st.buf, tmp', st.out ++ (direct C k st.core).1, true⟩ := by
  intro k
  induction k with
  | zero =>
    intro off st hc _ _
    refine ⟨st.tmp, ?_⟩
    cases st
    simp_all [whileEvents, runFill, direct]
  | succ k ih =>
    intro off st hc ho hw
    have hp : (off + 256#64).toNat = off.toNat + 256 := by
      simp only [BitVec.toNat_add, BitVec.toNat_ofNat]; omega
    have h256 : (256#64).toNat = 256 := rfl
    obtain ⟨tmp', ht⟩ := ih (off + 256#64)
      { core := (C.gen st.core).2, buf := st.buf, tmp := (C.gen st.core).1,
        out := st.out ++ take (C.gen st.core).1 0 256, contig := st.contig && decide (off.toNat = st.out.length) }
      (by simp [hc, ho]) (by simp [hp, ho]) (by rw [hp]; omega)
    refine ⟨tmp', ?_⟩
    simp only [whileEvents, runFill, List.foldl_cons, stepFill, h256] at ht ⊢
    rw [ht]
    simp [direct]

/-- `start = usize::min(self.index as usize, random.len())` -/
def startOf (idx : BitVec 32) : BitVec 64 := if idx.setWidth 64 ≤ 256#64 then idx.setWidth 64 else 256#64

theorem startOf_def (idx : BitVec 32) : (if idx.setWidth 64 ≤ 256#64 then idx.setWidth 64 else 256#64) = startOf idx := rfl

theorem startOf_toNat (idx : BitVec 32) : (startOf idx).toNat = min idx.toNat 256 := by
  have h : (idx.setWidth 64).toNat = idx.toNat := by
    simp only [BitVec.toNat_setWidth]; have := idx.isLt; omega
  simp only [startOf, BitVec.le_def, apply_ite BitVec.toNat, h, Nat.min_def]; rfl

theorem startOf_rest (idx : BitVec 32) : (256#64 - startOf idx).toNat = 256 - min idx.toNat 256 := by
  rw [BitVec.toNat_sub_of_le (by rw [BitVec.le_def, startOf_toNat]; exact Nat.min_le_right _ _), startOf_toNat]; rfl

/-- one round of the remainder loop: `n = min (what is left of the block) rem` bytes are copied from `start`, no bounds flag is raised;
if that was not all, the block is refilled and the loop goes round again, otherwise it breaks -/
theorem loop1_round (fuel : Nat) (idx : BitVec 32) (off rem : BitVec 64) (log : List FillEv) (oob d : Bool) :
    Effect.block.fill_bytes_loop1 256#64 (fuel + 1) (idx, off, rem, log, oob, d, false) =
      (let n := if 256#64 - startOf idx ≤ rem then 256#64 - startOf idx else rem
       if rem - n > 0#64 then
         Effect.block.fill_bytes_loop1 256#64 fuel (0#32, off + n, rem - n, log ++ [.copyRandom (0#64 + startOf idx) off n] ++ [.genRandom], oob, d, false)
       else (idx + n.setWidth 32, off + n, rem - n, log ++ [.copyRandom (0#64 + startOf idx) off n], oob, d, true)) := by
  have start_in_block : ¬ startOf idx > 256#64 := by
    rw [gt_iff_lt, BitVec.lt_def, startOf_toNat]; exact Nat.not_lt.2 (Nat.min_le_right _ _)
  rw [Effect.block.fill_bytes_loop1]
  unfold startOf at *
  generalize (if idx.setWidth 64 ≤ 256#64 then idx.setWidth 64 else 256#64) = st at *
  generalize 256#64 - st = left
  have n_le_left : ¬ (if left ≤ rem then left else rem) > left := by
    split <;> simp only [gt_iff_lt, BitVec.lt_def, BitVec.le_def] at * <;> omega
  have n_le_rem : ¬ (if left ≤ rem then left else rem) > rem := by
    split <;> simp only [gt_iff_lt, BitVec.lt_def, BitVec.le_def] at * <;> omega
  simp only [start_in_block, n_le_left, n_le_rem, decide_false, Bool.or_false]
  by_cases more : (rem - if left ≤ rem then left else rem) > 0#64 <;> simp [more]

theorem loop1_fits (fuel : Nat) (idx : BitVec 32) (off rem : BitVec 64) (log : List FillEv) (oob d : Bool)
    (hA : rem.toNat ≤ 256 - min idx.toNat 256) :
    Effect.block.fill_bytes_loop1 256#64 (fuel + 1) (idx, off, rem, log, oob, d, false) =
      (idx + rem.setWidth 32, off + rem, 0#64, log ++ [.copyRandom (0#64 + startOf idx) off rem], oob, d, true) := by
  -- the whole remainder is copied, nothing is left: the loop breaks
  have whole : (if 256#64 - startOf idx ≤ rem then 256#64 - startOf idx else rem) = rem := by
    split
    · rename_i hle
      rw [BitVec.le_def, startOf_rest] at hle
      exact BitVec.eq_of_toNat_eq (by rw [startOf_rest]; omega)
    · rfl
  rw [loop1_round]
  simp [whole]

theorem loop1_spills (fuel : Nat) (idx : BitVec 32) (off rem : BitVec 64) (log : List FillEv) (oob d : Bool)
    (h256 : rem.toNat < 256) (hB : 256 - min idx.toNat 256 < rem.toNat) :
    Effect.block.fill_bytes_loop1 256#64 (fuel + 2) (idx, off, rem, log, oob, d, false) =
      (0#32 + (rem - (256#64 - startOf idx)).setWidth 32, off + (256#64 - startOf idx) + (rem - (256#64 - startOf idx)), 0#64,
        log ++ [.copyRandom (0#64 + startOf idx) off (256#64 - startOf idx)] ++ [.genRandom] ++
          [.copyRandom (0#64 + startOf 0#32) (off + (256#64 - startOf idx)) (rem - (256#64 - startOf idx))], oob, d, true) := by
  -- first round: what is left of the block is copied and something remains, so the block is refilled; second round: the rest fits
  have hsl := startOf_rest idx
  have left_le : 256#64 - startOf idx ≤ rem := by rw [BitVec.le_def, hsl]; omega
  have hrest : (rem - (256#64 - startOf idx)).toNat = rem.toNat - (256 - min idx.toNat 256) := by
    rw [BitVec.toNat_sub_of_le left_le, hsl]
  have more : rem - (256#64 - startOf idx) > 0#64 := by rw [gt_iff_lt, BitVec.lt_def, hrest]; exact Nat.sub_pos_of_lt hB
  rw [loop1_round]
  simp only [left_le, if_true, more]
  rw [loop1_fits fuel 0#32 _ _ _ oob d (by rw [hrest]; simp; omega)]

/-- the remainder loop, run on a model state, is `fillRem` (at most two rounds) -/
theorem loop1_run (C : Core κ β) (s : BS κ β) (tmp : Nat → β) (out : List β) (fuel : Nat) (idx : BitVec 32) (off rem : BitVec 64)
    (log : List FillEv) (oob d : Bool) (hidx : idx.toNat = s.index) (h256 : rem.toNat < 256)
    (hoff : off.toNat = out.length) (hw : off.toNat + rem.toNat < 2 ^ 64) :
    ∃ idx' off' rem' evs,
      Effect.block.fill_bytes_loop1 256#64 (fuel + 2) (idx, off, rem, log, oob, d, false) = (idx', off', rem', log ++ evs, oob, d, true) ∧
      idx'.toNat = (fillRem C rem.toNat s).2.index ∧
      runFill C ⟨s.core, s.buf, tmp, out, true⟩ evs =
        ⟨(fillRem C rem.toNat s).2.core, (fillRem C rem.toNat s).2.buf, tmp, out ++ (fillRem C rem.toNat s).1, true⟩ := by
  have hsN := startOf_toNat idx
  rw [hidx] at hsN
  by_cases hfit : rem.toNat ≤ 256 - min s.index 256
  · -- one copy from the block: the first branch of `fillRem`
    refine ⟨_, _, _, _, loop1_fits (fuel + 1) idx off rem log oob d (by rw [hidx]; exact hfit), ?_, ?_⟩
    · simp only [fillRem, hfit, if_true, BitVec.toNat_add, BitVec.toNat_setWidth, hidx]; omega
    · simp [runFill, stepFill, fillRem, hfit, hsN, hoff]
  · -- what is left of the block, a refill, the rest from the start of the fresh block: the second branch of `fillRem`
    have hsl := startOf_rest idx
    rw [hidx] at hsl
    have hrem : (rem - (256#64 - startOf idx)).toNat = rem.toNat - (256 - min s.index 256) := by
      rw [BitVec.toNat_sub_of_le (by rw [BitVec.le_def, hsl]; omega), hsl]
    have hoff2 : (off + (256#64 - startOf idx)).toNat = out.length + (256 - min s.index 256) := by
      rw [BitVec.toNat_add, hsl, hoff]; omega
    refine ⟨_, _, _, _, (loop1_spills fuel idx off rem log oob d h256 (by rw [hidx]; omega)).trans
      (by rw [List.append_assoc, List.append_assoc]), ?_, ?_⟩
    · simp only [fillRem, hfit, if_false, BitVec.toNat_add, BitVec.toNat_setWidth, hrem]; simp; omega
    · have hs00 : (startOf 0#32).toNat = 0 := by decide
      simp [runFill, stepFill, fillRem, refill, hfit, hsN, hs00, hsl, hrem, hoff, hoff2]

end Urandom.C03
