import Mathlib.Tactic.Positivity
import Urandom.Lemmas.IEEEFields
/-
Round trip of the IEEE model: every value produced by `round` is *canonical* for the format, and
decoding the bit pattern of a canonical value gives the value back.  Hence

    decode f (encode f v sticky) = round f v sticky

so that class (NaN / infinite / finite), sign and magnitude statements proved about exact values
(`Val`) transfer to the bit patterns the operations return.  Not here: nothing relates `round` to the
exact value it rounds (no half-ulp bound, no monotonicity).
-/
namespace Urandom.IEEE

/-- the two real formats satisfy this; `decode_qnan` needs a mantissa bit, `decode_toBits_fin` an
exponent bit -/
structure Fmt.WF (f : Fmt) : Prop where
  eb : 1 ≤ f.eb
  mb : 1 ≤ f.mb

theorem b64_wf : b64.WF := ⟨by decide, by decide⟩
theorem b32_wf : b32.WF := ⟨by decide, by decide⟩

/-- the one presentation `(q, e)` of a finite magnitude that `toBits` encodes and `decode` returns: subnormals (and zero)
at `emin`, normals with `mb + 1` significant bits.  The pair alone is what `roundCore` returns; `Canon` adds that
`finish` does not overflow on it. -/
def CanonPair (f : Fmt) (p : ℕ × ℤ) : Prop :=
  (p.1 < 2 ^ f.mb ∧ p.2 = f.emin) ∨ (2 ^ f.mb ≤ p.1 ∧ p.1 < 2 ^ (f.mb + 1) ∧ f.emin ≤ p.2)

def Canon (f : Fmt) : Val → Prop
  | .nan => True
  | .inf _ => True
  | .fin _ q e => CanonPair f (q, e) ∧ ¬ (q ≥ 2 ^ f.mb ∧ e + f.mb + f.bias ≥ (f.emaxField : ℤ))

theorem canon_zero {f : Fmt} {s : Bool} {e : ℤ} (h : Canon f (.fin s 0 e)) : e = f.emin := by
  rcases h.1 with ⟨_, h⟩ | ⟨h, _⟩
  · exact h
  · exact absurd h (Nat.not_le.2 (Nat.two_pow_pos _))

theorem fields (eb mb σ E r : ℕ) (hσ : σ ≤ 1) (hE : E < 2 ^ eb) (hr : r < 2 ^ mb) :
    (σ * 2 ^ (eb + mb) + E * 2 ^ mb + r).testBit (eb + mb) = decide (σ = 1) ∧
    ((σ * 2 ^ (eb + mb) + E * 2 ^ mb + r) >>> mb) % 2 ^ eb = E ∧
    (σ * 2 ^ (eb + mb) + E * 2 ^ mb + r) % 2 ^ mb = r :=
  fields_nat eb mb σ E r hσ hE hr

theorem signBit_eq (f : Fmt) (s : Bool) : signBit f s = (if s then 1 else 0) * 2 ^ (f.eb + f.mb) := by
  cases s <;> simp [signBit]

theorem pack_eq (f : Fmt) (s : Bool) (E r : ℕ) (hE : E < 2 ^ f.eb) (hr : r < 2 ^ f.mb) :
    signBit f s ||| (E <<< f.mb) ||| r = (if s then 1 else 0) * 2 ^ (f.eb + f.mb) + E * 2 ^ f.mb + r := by
  rw [Nat.or_assoc, ← Nat.shiftLeft_add_eq_or_of_lt hr, Nat.shiftLeft_eq, signBit_eq, Nat.add_assoc,
    Nat.mul_comm _ (2 ^ (f.eb + f.mb))]
  exact (Nat.two_pow_add_eq_or_of_lt (pack_lt hE hr) _).symm

/-- `decode_fields` for the `|||` form that `toBits`, `infBits` and `qnan` build -/
theorem decode_pack (f : Fmt) (s : Bool) (E r : ℕ) (hE : E < 2 ^ f.eb) (hr : r < 2 ^ f.mb) :
    decode f (signBit f s ||| (E <<< f.mb) ||| r) =
      if E = f.emaxField then (if r = 0 then .inf s else .nan)
      else if E = 0 then .fin s r f.emin
      else .fin s (2 ^ f.mb + r) ((E : ℤ) - f.bias - f.mb) := by
  have hs : decide ((if s then 1 else 0) = 1) = s := by cases s <;> rfl
  rw [pack_eq f s E r hE hr, decode_fields f _ E r (by cases s <;> decide) hE hr, hs]

theorem toBits_fin (f : Fmt) (s : Bool) (q : ℕ) (e : ℤ) :
    toBits f (.fin s q e) = if q < 2 ^ f.mb then signBit f s ||| q
      else signBit f s ||| ((e + f.mb + f.bias).toNat <<< f.mb) ||| (q - 2 ^ f.mb) := rfl

theorem decode_toBits_fin (f : Fmt) (h : f.WF) (s : Bool) (q : ℕ) (e : ℤ) (hc : Canon f (.fin s q e)) :
    decode f (toBits f (.fin s q e)) = .fin s q e := by
  have hmax : 1 ≤ f.emaxField := by
    have := Nat.pow_le_pow_right (by decide : 0 < 2) h.eb
    unfold Fmt.emaxField; omega
  have hlt := emaxField_lt f
  rw [toBits_fin]
  obtain ⟨⟨hq, rfl⟩ | ⟨hq1, hq2, he1⟩, hno⟩ := hc
  · -- subnormal / zero: exponent field 0
    have hp := decode_pack f s 0 q (Nat.two_pow_pos _) hq
    rw [Nat.zero_shiftLeft, Nat.or_zero, if_neg (by omega), if_pos rfl] at hp
    rw [if_pos hq, hp]
  · -- normal: exponent field `E = e + mb + bias`, with `1 ≤ E < emaxField`
    have hE1 : 1 ≤ e + f.mb + f.bias := by unfold Fmt.emin at he1; omega
    obtain ⟨E, hE⟩ := Int.eq_ofNat_of_zero_le (by omega : 0 ≤ e + f.mb + f.bias)
    rw [if_neg (by omega), hE, Int.toNat_natCast, decode_pack f s E (q - 2 ^ f.mb) (by omega) (by omega),
      if_neg (by omega), if_neg (by omega), Nat.add_sub_cancel' hq1, show (E : ℤ) - f.bias - f.mb = e by omega]

theorem decode_infBits (f : Fmt) (s : Bool) : decode f (infBits f s) = .inf s := by
  have hp := decode_pack f s f.emaxField 0 (emaxField_lt f) (Nat.two_pow_pos _)
  rwa [Nat.or_zero, if_pos rfl, if_pos rfl] at hp

theorem decode_qnan (f : Fmt) (h : f.WF) : decode f (qnan f) = .nan := by
  have hp := decode_pack f false f.emaxField (2 ^ (f.mb - 1)) (emaxField_lt f)
    (Nat.pow_lt_pow_right (by decide) (Nat.sub_one_lt (by have := h.mb; omega)))
  rwa [show signBit f false = 0 from rfl, Nat.zero_or, if_pos rfl, if_neg (Nat.two_pow_pos _).ne'] at hp

theorem decode_toBits (f : Fmt) (h : f.WF) (v : Val) (hc : Canon f v) : decode f (toBits f v) = v := by
  cases v with
  | nan => exact decode_qnan f h
  | inf s => exact decode_infBits f s
  | fin s q e => exact decode_toBits_fin f h s q e hc

/-- `⌊m / 2^d⌋` for a signed `d` (left shift for `d ≤ 0`): the `q0` of `roundCore` -/
def shiftZ (m : ℕ) (d : ℤ) : ℕ := if d ≤ 0 then m <<< d.natAbs else m >>> d.toNat

/-- one formula for both directions (one of the two exponents is 0) -/
theorem shiftZ_eq (m : ℕ) (d : ℤ) : shiftZ m d = m * 2 ^ (-d).toNat / 2 ^ d.toNat := by
  unfold shiftZ
  split
  · rw [Nat.shiftLeft_eq, show d.natAbs = (-d).toNat by omega, show d.toNat = 0 by omega, pow_zero, Nat.div_one]
  · rw [Nat.shiftRight_eq_div_pow, show (-d).toNat = 0 by omega, pow_zero, Nat.mul_one]

theorem shiftZ_lt {m nb w : ℕ} {d : ℤ} (hm : m < 2 ^ nb) (h : (nb : ℤ) ≤ w + d) : shiftZ m d < 2 ^ w := by
  rw [shiftZ_eq, Nat.div_lt_iff_lt_mul (Nat.two_pow_pos _)]
  calc m * 2 ^ (-d).toNat < 2 ^ nb * 2 ^ (-d).toNat := Nat.mul_lt_mul_of_pos_right hm (Nat.two_pow_pos _)
    _ = 2 ^ (nb + (-d).toNat) := (pow_add 2 _ _).symm
    _ ≤ 2 ^ (w + d.toNat) := Nat.pow_le_pow_right (by decide) (by omega)
    _ = 2 ^ w * 2 ^ d.toNat := pow_add 2 _ _

theorem le_shiftZ {m n w : ℕ} {d : ℤ} (hm : 2 ^ n ≤ m) (h : (w : ℤ) + d ≤ n) : 2 ^ w ≤ shiftZ m d := by
  rw [shiftZ_eq, Nat.le_div_iff_mul_le (Nat.two_pow_pos _)]
  calc 2 ^ w * 2 ^ d.toNat = 2 ^ (w + d.toNat) := (pow_add 2 _ _).symm
    _ ≤ 2 ^ (n + (-d).toNat) := Nat.pow_le_pow_right (by decide) (by omega)
    _ = 2 ^ n * 2 ^ (-d).toNat := pow_add 2 _ _
    _ ≤ m * 2 ^ (-d).toNat := Nat.mul_le_mul_right _ hm

theorem shiftZ_shiftLeft (q k : ℕ) : shiftZ (q <<< k) k = q := by
  rw [shiftZ_eq, Int.toNat_natCast, Int.toNat_neg_natCast, pow_zero, Nat.mul_one, Nat.shiftLeft_eq,
    Nat.mul_div_cancel _ (Nat.two_pow_pos k)]

/-- the round-up decision of `roundCore` after shifting by `sh` -/
def roundUp (m : ℕ) (sh : ℤ) (st : Bool) : Bool :=
  if sh ≤ 0 then false
  else decide (m % 2 ^ sh.toNat > 2 ^ (sh.toNat - 1)) ||
    (m % 2 ^ sh.toNat == 2 ^ (sh.toNat - 1) && (st || shiftZ m sh % 2 == 1))

theorem roundUp_shiftLeft (q k : ℕ) (st : Bool) : roundUp (q <<< k) k st = false := by
  unfold roundUp
  split
  · rfl
  · rw [Int.toNat_natCast, Nat.shiftLeft_eq, Nat.mul_mod_left]
    simp [(Nat.two_pow_pos (k - 1)).ne]

/-- `e'` and `q` are arguments so that a caller can supply them in simplified form -/
theorem roundCore_eq (f : Fmt) (m : ℕ) (e : ℤ) (st : Bool)
    (e' : ℤ) (he' : e' = max (e + ((m.log2 + 1 : ℕ) : ℤ) - (f.mb + 1)) f.emin)
    (q : ℕ) (hq : q = if roundUp m (e' - e) st then shiftZ m (e' - e) + 1 else shiftZ m (e' - e)) :
    roundCore f m e st = if q ≥ 2 ^ (f.mb + 1) then (q / 2, e' + 1) else (q, e') := by
  subst he' hq; rfl

/-- the last step of `roundCore`: rounding adds at most one, and a carry to `2^(mb+1)` renormalises to
`(2^mb, e' + 1)` -/
theorem carry_canon (f : Fmt) (q0 q : ℕ) (e' : ℤ) (hlt : q0 < 2 ^ (f.mb + 1)) (hq : q = q0 ∨ q = q0 + 1)
    (he : f.emin ≤ e') (hn : e' ≠ f.emin → 2 ^ f.mb ≤ q0) :
    CanonPair f (if q ≥ 2 ^ (f.mb + 1) then (q / 2, e' + 1) else (q, e')) := by
  split
  · -- carry: `q = 2^(mb+1)`
    exact Or.inr ⟨by omega, by omega, by omega⟩
  · by_cases h : q < 2 ^ f.mb
    · exact Or.inl ⟨h, by omega⟩
    · exact Or.inr ⟨by omega, by omega, he⟩

theorem roundCore_canon (f : Fmt) (m : ℕ) (hm : m ≠ 0) (e : ℤ) (st : Bool) : CanonPair f (roundCore f m e st) := by
  have hlo : 2 ^ m.log2 ≤ m := Nat.log2_self_le hm
  have hhi : m < 2 ^ (m.log2 + 1) := Nat.lt_log2_self
  rw [roundCore_eq f m e st _ rfl _ rfl]
  refine carry_canon f _ _ _ (shiftZ_lt hhi ?_) (ite_eq_or_eq _ _ _).symm (le_max_right _ _)
    fun h => le_shiftZ hlo ?_
  · omega  -- `nb ≤ (mb+1) + (e' - e)`: the first argument of the `max`
  · omega  -- `mb + (e' - e) ≤ nb - 1`: by `h` the `max` is its first argument

theorem round_fin (f : Fmt) (s : Bool) (m : ℕ) (e : ℤ) (st : Bool) :
    round f (.fin s m e) st =
      if m = 0 then .fin s 0 f.emin else finish f s (roundCore f m e st).1 (roundCore f m e st).2 := rfl

theorem round_canon (f : Fmt) (v : Val) (st : Bool) : Canon f (round f v st) := by
  cases v with
  | nan => trivial
  | inf s => trivial
  | fin s m e =>
    rw [round_fin]
    split
    · exact ⟨Or.inl ⟨Nat.two_pow_pos _, rfl⟩, fun h => absurd h.1 (Nat.two_pow_pos _).not_ge⟩
    · rename_i hm
      unfold finish
      split
      · trivial
      · rename_i hno
        exact ⟨roundCore_canon f m hm e st, hno⟩

theorem decode_encode (f : Fmt) (h : f.WF) (v : Val) (st : Bool) : decode f (encode f v st) = round f v st :=
  decode_toBits f h _ (round_canon f v st)

theorem decode_canon (f : Fmt) (bits : ℕ) : Canon f (decode f bits) := by
  rw [decode_eq]
  have hlt : bits >>> f.mb % 2 ^ f.eb < 2 ^ f.eb := Nat.mod_lt _ (Nat.two_pow_pos _)
  have hm : bits % 2 ^ f.mb < 2 ^ f.mb := Nat.mod_lt _ (Nat.two_pow_pos _)
  generalize bits >>> f.mb % 2 ^ f.eb = E at *
  split
  · split <;> trivial
  · split
    · exact ⟨Or.inl ⟨hm, rfl⟩, by omega⟩
    · refine ⟨Or.inr ⟨by omega, by omega, ?_⟩, ?_⟩
      · unfold Fmt.emin; omega
      · unfold Fmt.emaxField at *; omega

theorem log2_shiftLeft (q k : ℕ) (hq : q ≠ 0) : (q <<< k).log2 = q.log2 + k := by
  rw [Nat.shiftLeft_eq, Nat.log2_eq_iff (by positivity), Nat.add_right_comm, pow_add 2 q.log2 k,
    pow_add 2 (q.log2 + 1) k]
  exact ⟨Nat.mul_le_mul_right _ (Nat.log2_self_le hq),
    Nat.mul_lt_mul_of_pos_right Nat.lt_log2_self (Nat.two_pow_pos k)⟩

/-- for `q·2^k` at `e - k` the target exponent is `e`, the shift is `k`, only zeros are shifted out, and
there is no carry -/
theorem roundCore_exact (f : Fmt) (q : ℕ) (hq : q ≠ 0) (e : ℤ) (k : ℕ) (st : Bool) (hc : CanonPair f (q, e)) :
    roundCore f (q <<< k) (e - k) st = (q, e) := by
  -- `hc` in terms of the bit length: `log2 q < mb` for subnormals, `log2 q = mb` for normals
  have h1 := Nat.log2_lt hq (k := f.mb)
  have h2 := Nat.log2_lt hq (k := f.mb + 1)
  dsimp only [CanonPair] at hc
  have hqlt : q < 2 ^ (f.mb + 1) := by omega
  rw [roundCore_eq f _ _ st e ?_ q ?_, if_neg hqlt.not_ge]
  · rw [log2_shiftLeft q k hq]; omega
  · rw [show e - (e - (k : ℤ)) = k by omega, roundUp_shiftLeft, shiftZ_shiftLeft]; rfl

theorem round_exact (f : Fmt) (s : Bool) (q : ℕ) (e : ℤ) (k : ℕ) (st : Bool) (hc : Canon f (.fin s q e)) :
    round f (.fin s (q <<< k) (e - k)) st = .fin s q e := by
  rw [round_fin]
  by_cases hq : q = 0
  · subst hq
    rw [Nat.zero_shiftLeft, if_pos rfl, canon_zero hc]
  · rw [if_neg (by rw [Nat.shiftLeft_eq]; positivity), roundCore_exact f q hq e k st hc.1]
    exact if_neg hc.2

section ops
variable (f : Fmt) (hf : f.WF) (a b c : ℕ)
include hf

theorem decode_mul : decode f (mul f a b) = round f ((decode f a).mulE (decode f b)) := decode_encode f hf _ _
theorem decode_add : decode f (add f a b) = round f ((decode f a).addE (decode f b)) := decode_encode f hf _ _
theorem decode_sub : decode f (sub f a b) = round f ((decode f a).addE (decode f b).neg) := decode_encode f hf _ _
theorem decode_fma : decode f (fma f a b c) = round f (((decode f a).mulE (decode f b)).addE (decode f c)) :=
  decode_encode f hf _ _
theorem decode_div : decode f (div f a b) = round f (divV f (decode f a) (decode f b)).1 (divV f (decode f a) (decode f b)).2 :=
  decode_encode f hf _ _

end ops

theorem round_zero (f : Fmt) (s : Bool) (e : ℤ) (st : Bool) : round f (.fin s 0 e) st = .fin s 0 f.emin := rfl

theorem round_fin_cases (f : Fmt) (s : Bool) (m : ℕ) (e : ℤ) (st : Bool) :
    round f (.fin s m e) st = .inf s ∨ ∃ q e', round f (.fin s m e) st = .fin s q e' := by
  rw [round_fin]
  unfold finish
  split
  · exact Or.inr ⟨_, _, rfl⟩
  · split
    · exact Or.inl rfl
    · exact Or.inr ⟨_, _, rfl⟩

theorem round_isNaN (f : Fmt) (v : Val) (st : Bool) : (round f v st).isNaN = v.isNaN := by
  rcases v with _ | s | ⟨s, m, e⟩
  · rfl
  · rfl
  · rcases round_fin_cases f s m e st with h | ⟨q, e', h⟩ <;> rw [h] <;> rfl

theorem round_sign (f : Fmt) (v : Val) (st : Bool) : (round f v st).sign = v.sign := by
  rcases v with _ | s | ⟨s, m, e⟩
  · rfl
  · rfl
  · rcases round_fin_cases f s m e st with h | ⟨q, e', h⟩ <;> rw [h] <;> rfl

end Urandom.IEEE
