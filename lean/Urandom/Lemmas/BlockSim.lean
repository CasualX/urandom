import Urandom.Lemmas.Block
/-
Parametricity / simulation for the polymorphic block generator: if two cores are related
(`R` on core states, `f` on batch elements, pointwise on the 256 elements of every batch), then
every history issues `f`-related elements.  Transfers statements about ghost positions to the
bytes actually returned.
-/
namespace Urandom.Block

variable {κ κ' β γ : Type}

theorem take_map_of_lt (f : β → γ) (buf : Nat → β) (buf' : Nat → γ) (start n : Nat) (hb : start + n ≤ 256)
    (h : ∀ i, start ≤ i → i < 256 → f (buf i) = buf' i) : take buf' start n = (take buf start n).map f := by
  unfold take
  rw [List.map_map]
  apply List.map_congr_left
  intro i hi
  simp only [List.mem_range] at hi
  exact (h _ (by omega) (by omega)).symm

structure Sim (C : Core κ β) (C' : Core κ' γ) (f : β → γ) (R : κ → κ' → Prop) : Prop where
  gen : ∀ c c', R c c' → R (C.gen c).2 (C'.gen c').2 ∧ ∀ i, i < 256 → f ((C.gen c).1 i) = (C'.gen c').1 i
  jmp : ∀ c c', R c c' → R (C.jmp c) (C'.jmp c')

/-- related buffered states: related cores, the same index or both out of bounds, `f`-related *unread* buffer contents
(what lies before `index`, and the whole buffer when `index ≥ 256`, is never read again) - or, with `whole`, `f`-related buffers
throughout (serde writes the read part out as well) -/
structure Rel (f : β → γ) (R : κ → κ' → Prop) (whole : Prop) (s : BS κ β) (s' : BS κ' γ) : Prop where
  core : R s.core s'.core
  index : min s.index 256 = min s'.index 256
  buf : ∀ i, i < 256 → s.index ≤ i ∨ whole → f (s.buf i) = s'.buf i

variable {C : Core κ β} {C' : Core κ' γ} {f : β → γ} {R : κ → κ' → Prop} {whole : Prop}

theorem nextN_rel (hS : Sim C C' f R) {s : BS κ β} {s' : BS κ' γ} (h : Rel f R whole s s') (n : Nat) (hn0 : 0 < n) (hn : n ≤ 256) :
    (nextN C' n s').1 = (nextN C n s).1.map f ∧ Rel f R whole (nextN C n s).2 (nextN C' n s').2 := by
  have hx := h.index
  unfold nextN
  by_cases hi : s.index > 256 - n
  · have hi' : s'.index > 256 - n := by omega
    obtain ⟨hc, hb⟩ := hS.gen _ _ h.core
    simp only [hi, hi', ↓reduceIte]
    exact ⟨take_map_of_lt f _ _ _ _ (by rw [refill_index]; omega) (fun i _ h2 => hb i h2), hc, rfl, fun i h2 _ => hb i h2⟩
  · obtain e : s'.index = s.index := by omega
    simp only [hi, e, ↓reduceIte]
    exact ⟨take_map_of_lt f _ _ _ _ (by omega) (fun i h1 h2 => h.buf i h2 (.inl h1)),
      h.core, rfl, fun i h2 h1 => h.buf i h2 (h1.imp_left (fun h1 => by simp at h1; omega))⟩

theorem direct_rel (hS : Sim C C' f R) : ∀ (k : Nat) (c : κ) (c' : κ'), R c c' →
    (direct C' k c').1 = (direct C k c).1.map f ∧ R (direct C k c).2 (direct C' k c').2 := by
  intro k
  induction k with
  | zero => intro c c' h; exact ⟨rfl, h⟩
  | succ k ih =>
    intro c c' h
    obtain ⟨h1, h2⟩ := hS.gen c c' h
    obtain ⟨e, r⟩ := ih _ _ h1
    simp only [direct, List.map_append]
    exact ⟨by rw [e, take_map_of_lt f _ _ 0 256 (by omega) (fun i _ hi => h2 i hi)], r⟩

theorem fillRem_rel (hS : Sim C C' f R) {s : BS κ β} {s' : BS κ' γ} (h : Rel f R whole s s') (len : Nat) (hl : len < 256) :
    (fillRem C' len s').1 = (fillRem C len s).1.map f ∧ Rel f R whole (fillRem C len s).2 (fillRem C' len s').2 := by
  have hx := h.index
  unfold fillRem
  simp only [← hx]
  by_cases hle : len ≤ 256 - min s.index 256
  · simp only [hle, ↓reduceIte]
    exact ⟨take_map_of_lt f _ _ _ _ (by omega) (fun i h1 h2 => h.buf i h2 (.inl (by omega))),
      h.core, by simp only; omega, fun i h2 h1 => h.buf i h2 (h1.imp_left (fun h1 => by simp at h1; omega))⟩
  · simp only [hle, ↓reduceIte]
    obtain ⟨hc, hb⟩ := hS.gen _ _ h.core
    refine ⟨?_, hc, rfl, fun i h2 _ => hb i h2⟩
    rw [List.map_append, take_map_of_lt f _ _ _ _ (by omega) (fun i h1 h2 => h.buf i h2 (.inl (by omega))),
      take_map_of_lt f (refill C s).buf (refill C' s').buf 0 _ (by omega) (fun i _ h2 => hb i h2)]

theorem fill_rel (hS : Sim C C' f R) {s : BS κ β} {s' : BS κ' γ} (h : Rel f R whole s s') (len : Nat) :
    (fill C' len s').1 = (fill C len s).1.map f ∧ Rel f R whole (fill C len s).2 (fill C' len s').2 := by
  unfold fill
  obtain ⟨e, r⟩ := direct_rel hS (len / 256) s.core s'.core h.core
  have h1 : Rel f R whole { s with core := (direct C (len / 256) s.core).2 } { s' with core := (direct C' (len / 256) s'.core).2 } :=
    ⟨r, h.index, h.buf⟩
  by_cases hz : len % 256 = 0
  · simp only [hz, ↓reduceIte]; exact ⟨e, h1⟩
  · simp only [hz, ↓reduceIte]
    obtain ⟨e2, r2⟩ := fillRem_rel hS h1 (len % 256) (Nat.mod_lt _ (by omega))
    exact ⟨by rw [List.map_append, e, e2], r2⟩

theorem jump_rel (hS : Sim C C' f R) {s : BS κ β} {s' : BS κ' γ} (h : Rel f R whole s s') :
    Rel f R whole (jump C s) (jump C' s') :=
  ⟨hS.jmp _ _ h.core, rfl, fun i h2 h1 => h.buf i h2 (h1.imp_left (fun h1 => by simp [jump] at h1; omega))⟩

/-- parametricity: related generators issue `f`-related elements under every history -/
theorem run_rel (hS : Sim C C' f R) (ops : List Op) : ∀ {s : BS κ β} {s' : BS κ' γ}, Rel f R whole s s' →
    (run C' s' ops).1 = (run C s ops).1.map f ∧ Rel f R whole (run C s ops).2 (run C' s' ops).2 := by
  induction ops with
  | nil => intro s s' h; exact ⟨rfl, h⟩
  | cons op ops ih =>
    intro s s' h
    have h1 : (stepOp C' s' op).1 = (stepOp C s op).1.map f ∧ Rel f R whole (stepOp C s op).2 (stepOp C' s' op).2 := by
      cases op with
      | u32 => exact nextN_rel hS h 4 (by omega) (by omega)
      | u64 => exact nextN_rel hS h 8 (by omega) (by omega)
      | f32 => exact nextN_rel hS h 4 (by omega) (by omega)
      | f64 => exact nextN_rel hS h 8 (by omega) (by omega)
      | fill n => exact fill_rel hS h n
      | jump => exact ⟨rfl, jump_rel hS h⟩
    obtain ⟨e2, r2⟩ := ih h1.2
    simp only [run, List.map_append]
    exact ⟨by rw [h1.1, e2], r2⟩

theorem Sim.refl (C : Core κ β) : Sim C C id Eq :=
  ⟨fun _ _ h => h ▸ ⟨rfl, fun _ _ => rfl⟩, fun _ _ h => h ▸ rfl⟩

end Urandom.Block
