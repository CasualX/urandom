/-
Lemire's lemma as an interval statement (core Lean only).
For a word size `B`, a range `r` and a target value `m`, the words `w` that are accepted
(`B % r ≤ w·r % B`) and map to `m` (`w·r / B = m`) are exactly the `B / r` consecutive words
starting at `v₀ = ⌈(m·B + B % r) / r⌉`.  The file also holds the preimage counts of truncation and shift (`trunc_preimage`,
`shr_preimage`), which C04, C11 and C13 use.
-/
namespace Urandom

theorem mul_ge_iff_ceil (A r w : Nat) (hr : 0 < r) : A ≤ w * r ↔ (A + r - 1) / r ≤ w := by
  rw [Nat.div_le_iff_le_mul_add_pred hr]
  have : r * w = w * r := Nat.mul_comm _ _
  constructor <;> intro h <;> omega

theorem div_mod_window (p B m t : Nat) (hB : 0 < B) :
    (p / B = m ∧ t ≤ p % B) ↔ (m * B + t ≤ p ∧ p < (m + 1) * B) := by
  have h1 := Nat.div_add_mod p B
  have h2 := Nat.mod_lt p hB
  constructor
  · rintro ⟨rfl, ht⟩
    rw [Nat.add_mul, Nat.mul_comm (p / B)]
    omega
  · rintro ⟨h3, h4⟩
    obtain rfl : p / B = m := Nat.div_eq_of_lt_le (by omega) h4
    rw [Nat.mul_comm] at h3
    exact ⟨rfl, by omega⟩

/-- first accepted word for value `m` -/
def lemireStart (B r m : Nat) : Nat := (m * B + B % r + r - 1) / r

theorem lemire_interval (B r m : Nat) (hB : 0 < B) (hr : 0 < r) :
    ∀ w, (w * r / B = m ∧ B % r ≤ w * r % B) ↔
      (lemireStart B r m ≤ w ∧ w < lemireStart B r m + B / r) := by
  intro w
  unfold lemireStart
  rw [div_mod_window _ _ _ _ hB, mul_ge_iff_ceil _ _ _ hr]
  -- the upper end `(m+1)·B` is the lower end `m·B + B % r` plus the multiple `(B / r)·r`, and a ceiling moves by `k` when `k·r` is added
  have hsplit : (m + 1) * B = (m * B + B % r) + (B / r) * r := by
    have := Nat.div_add_mod B r
    have e : r * (B / r) = B / r * r := Nat.mul_comm _ _
    rw [Nat.add_mul]; omega
  have hceil : ((m * B + B % r) + (B / r) * r + r - 1) / r = (m * B + B % r + r - 1) / r + B / r := by
    have : (m * B + B % r) + (B / r) * r + r - 1 = (m * B + B % r + r - 1) + (B / r) * r := by omega
    rw [this, Nat.add_mul_div_right _ _ hr]
  have key : w * r < (m + 1) * B ↔ w < (m * B + B % r + r - 1) / r + B / r := by
    rw [hsplit, ← hceil, ← Nat.not_le, ← Nat.not_le, mul_ge_iff_ceil _ _ _ hr]
  rw [key]

theorem lemire_interval_lt (B r m w : Nat) (hB : 0 < B) (hr : 0 < r) (hm : m < r)
    (h : lemireStart B r m ≤ w ∧ w < lemireStart B r m + B / r) : w < B := by
  have := (lemire_interval B r m hB hr w).2 h
  apply Nat.lt_of_not_le
  intro hle
  have h1 : B * r ≤ w * r := Nat.mul_le_mul_right r hle
  have h2 : r ≤ w * r / B := by
    rw [Nat.le_div_iff_mul_le hB, Nat.mul_comm]; exact h1
  omega

theorem reject_lt_half (B r : Nat) (hr : 0 < r) (hrB : r < B) : 2 * (B % r) < B := by
  have h1 := Nat.mod_lt B hr
  have h2 : B % r ≤ B - r := by
    have : B % r = (B - r) % r := Nat.mod_eq_sub_mod (Nat.le_of_lt hrB)
    rw [this]; exact Nat.mod_le _ _
  omega

theorem trunc_preimage (L b v w : Nat) (hb : b ≤ L) (hv : v < 2 ^ b) :
    (w < 2 ^ L ∧ w % 2 ^ b = v) ↔ ∃ j, j < 2 ^ (L - b) ∧ w = v + j * 2 ^ b := by
  have hp : 0 < 2 ^ b := Nat.two_pow_pos b
  have hL : 2 ^ L = 2 ^ (L - b) * 2 ^ b := by rw [← Nat.pow_add]; congr 1; omega
  constructor
  · rintro ⟨hw, hmod⟩
    refine ⟨w / 2 ^ b, ?_, ?_⟩
    · rw [Nat.div_lt_iff_lt_mul hp, ← hL]; exact hw
    · have := Nat.div_add_mod w (2 ^ b)
      rw [hmod] at this
      rw [Nat.mul_comm] at this; omega
  · rintro ⟨j, hj, rfl⟩
    constructor
    · rw [hL]
      calc v + j * 2 ^ b < 2 ^ b + j * 2 ^ b := by omega
        _ = (j + 1) * 2 ^ b := by rw [Nat.add_mul]; omega
        _ ≤ 2 ^ (L - b) * 2 ^ b := Nat.mul_le_mul_right _ hj
    · rw [Nat.add_mul_mod_self_right]; exact Nat.mod_eq_of_lt hv

theorem shr_preimage (k w m : Nat) : w >>> k = m ↔ m * 2 ^ k ≤ w ∧ w < (m + 1) * 2 ^ k := by
  simpa [Nat.shiftRight_eq_div_pow] using div_mod_window w (2 ^ k) m 0 (Nat.two_pow_pos k)

end Urandom
