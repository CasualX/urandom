import Mathlib.GroupTheory.Perm.Cycle.Type
import Mathlib.Data.BitVec
import Urandom.Model.Word
import Urandom.Lemmas.Lemire
/-
The OUTPUT sequences of xoshiro256 have the full period of the state sequence: an abstract counting argument
(`OneCycle.output_period`) and the sizes of the fibres of the `++` and the shifted `+` scrambler it needs.
-/
namespace Urandom.XoOut
open Function

scoped instance (n : ℕ) : Fintype (BitVec n) := Fintype.ofEquiv (Fin (2 ^ n)) BitVec.equivFin.symm.toEquiv

theorem card_bitvec (n : ℕ) : Fintype.card (BitVec n) = 2 ^ n := by
  rw [Fintype.card_congr (BitVec.equivFin (m := n)).toEquiv, Fintype.card_fin]

open Urandom.Xoshiro in
def sEquiv : S ≃ BitVec 64 × BitVec 64 × BitVec 64 × BitVec 64 where
  toFun s := (s.s0, s.s1, s.s2, s.s3)
  invFun t := ⟨t.1, t.2.1, t.2.2.1, t.2.2.2⟩

open Urandom.Xoshiro in
scoped instance : Fintype S := Fintype.ofEquiv _ sEquiv.symm

open Urandom.Xoshiro in
theorem card_S : Fintype.card S = 2 ^ 256 := by
  rw [Fintype.card_congr sEquiv]
  simp only [Fintype.card_prod, card_bitvec]
  norm_num

section abstract
variable {σ : Type} [Fintype σ] [DecidableEq σ] {ω : Type} [DecidableEq ω] {T : σ → σ} {z : σ} {N : ℕ}

/-- `T` has the fixed point `z` and moves all other states round one cycle of length `N` -/
structure OneCycle (T : σ → σ) (z : σ) (N : ℕ) : Prop where
  fixed : T z = z
  pos : 0 < N
  card : Fintype.card σ = N + 1
  period : ∀ x, x ≠ z → minimalPeriod T x = N

namespace OneCycle
variable (h : OneCycle T z N)
include h

theorem iterate_period (x : σ) : T^[N] x = x := by
  by_cases hx : x = z
  · rw [hx, iterate_fixed h.fixed]
  · rw [← h.period x hx]; exact iterate_minimalPeriod

def perm : Equiv.Perm σ where
  toFun := T
  invFun := T^[N - 1]
  left_inv y := by rw [← iterate_succ_apply, ← Nat.add_one, Nat.sub_add_cancel h.pos, h.iterate_period]
  right_inv y := by rw [← iterate_succ_apply' T, ← Nat.add_one, Nat.sub_add_cancel h.pos, h.iterate_period]

theorem perm_pow (n : ℕ) (x : σ) : (h.perm ^ n) x = T^[n] x := by
  rw [← Equiv.Perm.iterate_eq_pow]; rfl

theorem iterate_ne {x : σ} (hx : x ≠ z) (n : ℕ) : T^[n] x ≠ z := fun hn =>
  hx ((h.perm.injective.iterate n) (hn.trans (iterate_fixed h.fixed n).symm))

theorem single_cycle {s : σ} (hs : s ≠ z) {x : σ} (hx : x ≠ z) : ∃ n, T^[n] s = x := by
  let g : Fin N → {y : σ // y ≠ z} := fun n => ⟨T^[n.1] s, h.iterate_ne hs n.1⟩
  have hinj : Injective g := fun a b hab => Fin.ext <|
    (iterate_eq_iterate_iff_of_lt_minimalPeriod (by rw [h.period s hs]; exact a.2) (by rw [h.period s hs]; exact b.2)).1
      (congrArg Subtype.val hab)
  have hc : Fintype.card (Fin N) = Fintype.card {y : σ // y ≠ z} := by
    rw [Fintype.card_fin, Fintype.card_subtype_compl, Fintype.card_subtype_eq, h.card, Nat.add_sub_cancel]
  obtain ⟨n, hn⟩ := ((Fintype.bijective_iff_injective_and_card g).2 ⟨hinj, hc⟩).2 ⟨x, hx⟩
  exact ⟨n.1, congrArg Subtype.val hn⟩

/-- The output sequence has the full period if `N` is odd and squarefree and some value is the output of a
power of two of states, none of them the fixed point.

Otherwise a prime `r ∣ N` is missing in `m`; `k = m · (N / r)` is not a multiple of `N` but `k · r` is. `T^[k]`
permutes the fibre over `v`, its `r`-th power is the identity, and `r` does not divide the size of the fibre, so it
has a fixed point there: a state other than `z` whose period `N` divides `k`. -/
theorem output_period (f : σ → ω) (v : ω) (hv : f z ≠ v) (e : ℕ)
    (hfib : ∀ [Fintype {x : σ // f x = v}], Fintype.card {x : σ // f x = v} = 2 ^ e) (hodd : ¬ 2 ∣ N)
    (hsq : ∀ m : ℕ, (∀ r : ℕ, r.Prime → r ∣ N → r ∣ m) → N ∣ m)
    {s : σ} (hs : s ≠ z) (m : ℕ) (hm : ∀ n, f (T^[n + m] s) = f (T^[n] s)) : N ∣ m := by
  by_contra hnd
  obtain ⟨r, hr, ⟨c, hc⟩, hrm⟩ : ∃ r : ℕ, r.Prime ∧ r ∣ N ∧ ¬ r ∣ m := by
    by_contra hno
    exact hnd (hsq m fun r hr hrP => by_contra fun hrm => hno ⟨r, hr, hrP, hrm⟩)
  have hfm (x : σ) : f (T^[m] x) = f x := by
    by_cases hx : x = z
    · rw [hx, iterate_fixed h.fixed]
    · obtain ⟨n, rfl⟩ := h.single_cycle hs hx
      rw [← iterate_add_apply, Nat.add_comm]
      exact hm n
  have hfk (j : ℕ) (x : σ) : f (T^[m * j] x) = f x := by
    induction j generalizing x with
    | zero => rfl
    | succ j ih => rw [Nat.mul_succ, iterate_add_apply, ih, hfm]
  -- the `m * c`-th power of `T` permutes the fibre over `v`
  let π := (h.perm ^ (m * c)).subtypePerm (p := fun x => f x = v) fun x => by rw [h.perm_pow, hfk]
  have hπ : π ^ r ^ 1 = 1 := by  -- `^ 1`: the shape `exists_fixed_point_of_prime` takes
    ext x
    rw [pow_one, Equiv.Perm.subtypePerm_pow]
    show ((h.perm ^ (m * c)) ^ r) x.1 = x.1
    rw [← pow_mul, h.perm_pow, show m * c * r = N * m by rw [hc]; ring]
    exact (show IsPeriodicPt T N x.1 from h.iterate_period x.1).mul_const m
  have hnotdvd : ¬ r ∣ Fintype.card {x : σ // f x = v} := fun hd =>
    hodd ((Nat.prime_dvd_prime_iff_eq hr Nat.prime_two).1 (hr.dvd_of_dvd_pow (hfib ▸ hd)) ▸ ⟨c, hc⟩)
  have : Fact r.Prime := ⟨hr⟩
  obtain ⟨a, ha⟩ := Equiv.Perm.exists_fixed_point_of_prime hnotdvd hπ
  have haz : a.1 ≠ z := fun hz => hv (hz ▸ a.2)
  have hdvd : N ∣ m * c := by
    rw [← h.period a.1 haz]
    exact (show IsPeriodicPt T (m * c) a.1 from (h.perm_pow _ _).symm.trans (congrArg Subtype.val ha)).minimalPeriod_dvd
  have hc0 : 0 < c := Nat.pos_of_ne_zero fun h0 => h.pos.ne' (by rw [hc, h0, Nat.mul_zero])
  rw [hc] at hdvd
  exact hrm ((Nat.mul_dvd_mul_iff_right hc0).1 hdvd)

omit [DecidableEq ω] in
theorem eq_of_outputs_eq (f : σ → ω) (hf : ∀ s, s ≠ z → ∀ m, (∀ n, f (T^[n + m] s) = f (T^[n] s)) → N ∣ m)
    {s t : σ} (hs : s ≠ z) (ht : t ≠ z) (hall : ∀ n, f (T^[n] s) = f (T^[n] t)) : s = t := by
  obtain ⟨d, rfl⟩ := h.single_cycle hs ht
  have hd : T^[d % N] s = T^[d] s := h.period s hs ▸ iterate_mod_minimalPeriod_eq
  have := hf s hs (d % N) fun n => by rw [iterate_add_apply, hd]; exact (hall n).symm
  rw [← hd, Nat.eq_zero_of_dvd_of_lt this (Nat.mod_lt _ h.pos)]; rfl

end OneCycle
end abstract

open Urandom.Xoshiro

theorem rotl_injective {r : ℕ} (hr : r < 64) : Injective (fun x : BitVec 64 => x.rotateLeft r) := by
  intro x y h
  apply BitVec.eq_of_getLsbD_eq
  intro j hj
  -- bit `j` of `x` is bit `(j + r) % 64` of its rotation
  have h' := congrArg (fun z : BitVec 64 => z.getLsbD ((j + r) % 64)) h
  simp only [BitVec.getLsbD_rotateLeft, Nat.mod_eq_of_lt hr] at h'
  by_cases hjr : j < 64 - r
  · have h1 : j + r < 64 := by omega
    rwa [Nat.mod_eq_of_lt h1, decide_eq_false (by omega : ¬ j + r < r), cond_false, cond_false, decide_eq_true h1,
      Bool.true_and, Bool.true_and, Nat.add_sub_cancel] at h'
  · rwa [show (j + r) % 64 = j - (64 - r) by omega, decide_eq_true (by omega : j - (64 - r) < r), cond_true, cond_true,
      show 64 - r + (j - (64 - r)) = j by omega] at h'

theorem outPlusPlus_bijective (a : BitVec 64) : Bijective (fun t : BitVec 64 => (a + t).rotateLeft 23 + a) := by
  apply Finite.injective_iff_bijective.1
  intro t u h
  have h1 : (a + t).rotateLeft 23 = (a + u).rotateLeft 23 := (BitVec.add_left_inj a).1 (by simpa using h)
  have h2 := rotl_injective (by decide : 23 < 64) h1
  exact (BitVec.add_right_inj a).1 h2

def fibreEquiv (g : BitVec 64 → BitVec 64 ≃ BitVec 64) (Q : BitVec 64 → Prop) :
    {x : S // Q (g x.s0 x.s3)} ≃ (BitVec 64 × BitVec 64 × BitVec 64) × {w : BitVec 64 // Q w} where
  toFun x := ((x.1.s0, x.1.s1, x.1.s2), ⟨g x.1.s0 x.1.s3, x.2⟩)
  invFun t := ⟨⟨t.1.1, t.1.2.1, t.1.2.2, (g t.1.1).symm t.2.1⟩, by simpa using t.2.2⟩
  left_inv x := by obtain ⟨⟨a, b, c, d⟩, hx⟩ := x; simp
  right_inv t := by obtain ⟨⟨a, b, c⟩, ⟨w, hw⟩⟩ := t; simp

theorem card_plusPlusFibre (v : BitVec 64) [Fintype {x : S // outPlusPlus x = v}] :
    Fintype.card {x : S // outPlusPlus x = v} = 2 ^ 192 := by
  rw [Fintype.card_congr (show {x : S // outPlusPlus x = v} ≃ _ from
    fibreEquiv (fun a => Equiv.ofBijective _ (outPlusPlus_bijective a)) (· = v))]
  simp only [Fintype.card_prod, card_bitvec, Fintype.card_unique]
  norm_num

/-- `next_u32`, `next_f32`, `next_f64` are the top `64 - k` bits of `s0 + s3` (k = 32, 41, 12) -/
def outPlusShift (k : ℕ) (s : S) : BitVec 64 := (s.s0 + s.s3) >>> k

theorem ushr_eq_one_iff (w : BitVec 64) (k : ℕ) : w >>> k = 1#64 ↔ 2 ^ k ≤ w.toNat ∧ w.toNat < 2 ^ k * 2 := by
  rw [← BitVec.toNat_inj, BitVec.toNat_ushiftRight]
  show _ = 1 ↔ _
  rw [shr_preimage, Nat.one_mul, Nat.mul_comm (1 + 1)]

theorem toNat_ofNat_top {k i : ℕ} (hk : k < 64) (hi : i < 2 ^ k) : (BitVec.ofNat 64 (2 ^ k + i)).toNat = 2 ^ k + i := by
  have : 2 ^ k * 2 ≤ 2 ^ 64 := by rw [← pow_succ]; exact Nat.pow_le_pow_right (by decide) (by omega)
  rw [BitVec.toNat_ofNat, Nat.mod_eq_of_lt (by omega)]

def topOneEquiv (k : ℕ) (hk : k < 64) : {w : BitVec 64 // w >>> k = 1#64} ≃ Fin (2 ^ k) where
  toFun w := ⟨w.1.toNat - 2 ^ k, by have := (ushr_eq_one_iff _ _).1 w.2; omega⟩
  invFun i := ⟨BitVec.ofNat 64 (2 ^ k + i), (ushr_eq_one_iff _ _).2 (by rw [toNat_ofNat_top hk i.2]; omega)⟩
  left_inv w := by
    have := (ushr_eq_one_iff _ _).1 w.2
    apply Subtype.ext; apply BitVec.eq_of_toNat_eq
    show (BitVec.ofNat 64 (2 ^ k + (w.1.toNat - 2 ^ k))).toNat = _
    rw [toNat_ofNat_top hk (by omega)]; omega
  right_inv i := Fin.ext (by show (BitVec.ofNat 64 (2 ^ k + i)).toNat - 2 ^ k = i; rw [toNat_ofNat_top hk i.2]; omega)

theorem card_topOne (k : ℕ) (hk : k < 64) [Fintype {w : BitVec 64 // w >>> k = 1#64}] :
    Fintype.card {w : BitVec 64 // w >>> k = 1#64} = 2 ^ k := by
  rw [Fintype.card_congr (topOneEquiv k hk), Fintype.card_fin]

theorem card_plusFibre (k : ℕ) (hk : k < 64) [Fintype {x : S // outPlusShift k x = 1#64}] :
    Fintype.card {x : S // outPlusShift k x = 1#64} = 2 ^ (192 + k) := by
  rw [Fintype.card_congr (show {x : S // outPlusShift k x = 1#64} ≃ _ from fibreEquiv Equiv.addLeft (· >>> k = 1#64)),
    Fintype.card_prod, card_topOne k hk]
  simp only [Fintype.card_prod, card_bitvec]
  rw [pow_add]
  norm_num

end Urandom.XoOut
