import Urandom.Props.C04
import Urandom.Model.Seq
/- The primitives of the sequence algorithms (Model/Seq.lean): `Random::index` and `Random::range` on `usize` lie in their range - by
`C04.sample_mem`, which is why this file sits above Props/C04 - and `slice.swap` in bounds is `swapIfInBounds`. -/
namespace Urandom
open UniformInt

theorem usize_valid : C04.Valid IntTy.usize := ⟨by decide, by decide⟩

theorem usize_toInt (x : Nat) : IntTy.usize.toInt x = (x : Int) := IntTy.toInt_unsigned IntTy.usize rfl x

theorem index_lt (len : Nat) (h0 : 0 < len) (hl : len < IntTy.usize.M) (ws ws' : Words) (k : Nat)
    (h : index len ws = some (k, ws')) : k < len := by
  obtain ⟨h1, h2⟩ := C04.index_is_range len h0 hl
  rw [h2] at h
  have := C04.sample_mem IntTy.usize usize_valid 0 len false (C04.M_pos _) hl ⟨0, len⟩ h1 ws ws' k h
  simp only [usize_toInt, Bool.false_eq_true, ↓reduceIte] at this
  omega

theorem rangeUsize_mem (lo hi : Nat) (hhi : hi < IntTy.usize.M) (ws ws' : Words) (k : Nat)
    (h : Seq.rangeUsize lo hi ws = some (k, ws')) : lo ≤ k ∧ k < hi := by
  unfold Seq.rangeUsize at h
  split at h
  · simp at h
  · rename_i d hd
    have hne := (tryNew_ok_eq IntTy.usize lo hi false d hd).2
    simp only [usize_toInt, Bool.false_eq_true, ↓reduceIte] at hne
    have hlo : lo < IntTy.usize.M := by omega
    have := C04.sample_mem IntTy.usize usize_valid lo hi false hlo hhi d hd ws ws' k h
    simp only [usize_toInt, Bool.false_eq_true, ↓reduceIte] at this
    omega

theorem Seq.swap?_some {a a' : Array Nat} {i j : Nat} (h : Seq.swap? a i j = some a') :
    a' = a.swapIfInBounds i j ∧ i < a.size ∧ j < a.size := by
  unfold Seq.swap? at h
  split at h
  · rename_i hb; injection h with h; exact ⟨h.symm, hb.1, hb.2⟩
  · simp at h

end Urandom
