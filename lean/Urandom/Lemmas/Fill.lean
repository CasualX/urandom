import Urandom.Model.Word
/-
`rng_fill_bytes` as a write log: the writes are contiguous from `off`, their data is the first
`len` bytes of the little-endian serialisation of the next ⌈len/8⌉ words, and applying them to a
buffer changes exactly `[off, off+len)`.  Used by C01 (closed form of `fill`) and by C10 (`fillBytes_eq`, `rngFillWrites_spec`,
`applyWrites_contig`, `byteStream_take`; C10's tiling has its own predicate `Tiles`).
-/
namespace Urandom

def WordGen.words {σ : Type} (g : WordGen σ) : Nat → σ → List (BitVec 64)
  | 0, _ => []
  | k+1, s => (g.u64 s).1 :: g.words k (g.u64 s).2

def WordGen.after {σ : Type} (g : WordGen σ) : Nat → σ → σ
  | 0, s => s
  | k+1, s => g.after k (g.u64 s).2

def WordGen.byteStream {σ : Type} (g : WordGen σ) (k : Nat) (s : σ) : List Byte :=
  (g.words k s).flatMap (fun v => leBytes v 8)

@[simp] theorem WordGen.after_zero {σ : Type} (g : WordGen σ) (s : σ) : g.after 0 s = s := rfl
@[simp] theorem WordGen.byteStream_zero {σ : Type} (g : WordGen σ) (s : σ) : g.byteStream 0 s = [] := rfl

namespace C10
variable {σ : Type}
/-- the `succ` equation of `WordGen.after` (its name lies in the namespace of C10, which states its theorems with it) -/
theorem after_succ' (g : WordGen σ) (k : Nat) (s : σ) : g.after (k + 1) s = g.after k (g.u64 s).2 := rfl
end C10

/-- The writes start at `off` and each begins where the previous one ended. -/
def Contig : Nat → List Write → Prop
  | _, [] => True
  | off, w :: ws => w.off = off ∧ Contig (off + w.data.length) ws

def dataOf (ws : List Write) : List Byte := ws.flatMap (·.data)

@[simp] theorem dataOf_nil : dataOf [] = [] := rfl
@[simp] theorem dataOf_cons (w : Write) (ws : List Write) : dataOf (w :: ws) = w.data ++ dataOf ws := by simp [dataOf]

@[simp] theorem leBytes_length (v : BitVec 64) (n : Nat) : (leBytes v n).length = n := by
  simp [leBytes]

theorem leBytes_take (v : BitVec 64) (n m : Nat) (h : m ≤ n) : (leBytes v n).take m = leBytes v m := by
  simp only [leBytes, ← List.map_take, List.take_range]
  rw [Nat.min_eq_left h]

theorem applyWrites_contig : ∀ (ws : List Write) (b : List Byte) (off : Nat), Contig off ws → off + (dataOf ws).length ≤ b.length →
    applyWrites b ws = b.take off ++ dataOf ws ++ b.drop (off + (dataOf ws).length)
  | [], b, off, _, _ => by simp [applyWrites]
  | ⟨_, data⟩ :: ws, b, off, ⟨rfl, hc⟩, hl => by
    simp only [dataOf_cons, List.length_append] at hl ⊢
    -- the store lies inside the buffer, so all of `data` is written
    have hw : applyWrite b ⟨off, data⟩ = b.take off ++ data ++ b.drop (off + data.length) := by
      unfold applyWrite; simp only; rw [List.take_of_length_le (l := data) (by omega)]
    have hlen : (b.take off ++ data).length = off + data.length := by simp; omega
    show applyWrites (applyWrite b ⟨off, data⟩) ws = _
    rw [hw, applyWrites_contig ws _ (off + data.length) hc (by simp; omega), List.take_left' hlen, List.drop_append,
      List.drop_of_length_le (by rw [hlen]; omega), List.nil_append, List.drop_drop, hlen]
    simp only [List.append_assoc]
    congr 4
    omega

/-- the case principle of the tail lengths -/
theorem forall_lt_eight {P : Nat → Prop} (h0 : P 0) (h1 : P 1) (h2 : P 2) (h3 : P 3) (h4 : P 4) (h5 : P 5) (h6 : P 6) (h7 : P 7) :
    ∀ n, n < 8 → P n
  | 0, _ => h0 | 1, _ => h1 | 2, _ => h2 | 3, _ => h3 | 4, _ => h4 | 5, _ => h5 | 6, _ => h6 | 7, _ => h7
  | n + 8, h => absurd h (by omega)

/-- why this and the other enumerations over the tail length hold (`C10.fillTail_tiles`, `C10.tailW_width`, `C10.tailW_toWrite`,
`C10.rng_fill_bytes_closed`): the three conditional stores are the binary digits 4, 2, 1 of `len < 8`, and after a store of `w` bytes
the word is shifted by `8 w` bits, so each store carries the next bytes of `v` (the bytes of `v >>> 32` are bytes 4.. of `v`) -/
theorem fillTail_spec (v : BitVec 64) (off len : Nat) (h0 : 0 < len) (h8 : len < 8) :
    Contig off (fillTail v off len) ∧ dataOf (fillTail v off len) = leBytes v len := by
  revert h0; revert len
  apply forall_lt_eight <;> simp [fillTail, Contig, leBytes, List.range, List.range.loop]

theorem WordGen.byteStream_succ {σ : Type} (g : WordGen σ) (k : Nat) (s : σ) :
    g.byteStream (k + 1) s = leBytes (g.u64 s).1 8 ++ g.byteStream k (g.u64 s).2 := by
  simp [WordGen.byteStream, WordGen.words]

@[simp] theorem WordGen.byteStream_length {σ : Type} (g : WordGen σ) (k : Nat) (s : σ) :
    (g.byteStream k s).length = 8 * k := by
  induction k generalizing s with
  | zero => rfl
  | succ k ih => rw [g.byteStream_succ, List.length_append, ih, leBytes_length]; omega

theorem WordGen.byteStream_take {σ : Type} (g : WordGen σ) (a b : Nat) (s : σ) (hab : a ≤ b) :
    g.byteStream a s = (g.byteStream b s).take (8 * a) := by
  induction a generalizing b s with
  | zero => simp
  | succ a ih =>
    obtain ⟨b, rfl⟩ : ∃ b', b = b' + 1 := ⟨b - 1, by omega⟩
    have ht : List.take (8 * (a + 1)) (leBytes (g.u64 s).1 8) = leBytes (g.u64 s).1 8 :=
      List.take_of_length_le (by simp; omega)
    rw [g.byteStream_succ, g.byteStream_succ, ih b _ (by omega), List.take_append, ht]
    congr 2

theorem rngFillWrites_spec {σ : Type} (g : WordGen σ) (s : σ) (off len : Nat) :
    Contig off (rngFillWrites g s off len).1 ∧
    dataOf (rngFillWrites g s off len).1 = (g.byteStream ((len + 7) / 8) s).take len ∧
    (rngFillWrites g s off len).2 = g.after ((len + 7) / 8) s := by
  fun_induction rngFillWrites g s off len with
  | case1 s off len h8 v s' hv ws s'' e ih =>
    rw [e] at ih
    obtain ⟨c, d, e'⟩ := ih
    have hk : (len + 7) / 8 = (len - 8 + 7) / 8 + 1 := by omega
    refine ⟨⟨rfl, by simpa using c⟩, ?_, ?_⟩
    · rw [hk, g.byteStream_succ, hv, List.take_append, List.take_of_length_le (by simp; omega)]
      simpa using d
    · rw [hk, C10.after_succ', hv]; exact e'
  | case2 s off len h8 h0 v s' hv =>
    have hk : (len + 7) / 8 = 1 := by omega
    obtain ⟨c, d⟩ := fillTail_spec v off len h0 (by omega)
    refine ⟨c, ?_, by rw [hk, C10.after_succ', hv]; rfl⟩
    rw [d, hk, g.byteStream_succ, hv, g.byteStream_zero, List.append_nil]
    exact (leBytes_take _ 8 len (by omega)).symm
  | case3 s off len h8 h0 =>
    obtain rfl : len = 0 := by omega
    simp [Contig]

theorem dataOf_length_rngFill {σ : Type} (g : WordGen σ) (s : σ) (off len : Nat) :
    (dataOf (rngFillWrites g s off len).1).length = len := by
  rw [(rngFillWrites_spec g s off len).2.1, List.length_take, g.byteStream_length]
  omega

/-- `fill_bytes(len)` = the first `len` bytes of the word stream; state `⌈len/8⌉` draws later. -/
theorem fillBytes_eq {σ : Type} (g : WordGen σ) (s : σ) (len : Nat) :
    fillBytes g s len = ((g.byteStream ((len + 7) / 8) s).take len, g.after ((len + 7) / 8) s) := by
  unfold fillBytes
  obtain ⟨c, d, e⟩ := rngFillWrites_spec g s 0 len
  have hl := dataOf_length_rngFill g s 0 len
  have := applyWrites_contig (rngFillWrites g s 0 len).1 (List.replicate len 0#8) 0 c (by simp [hl])
  simp [hl] at this
  simp only [this, d, e]

end Urandom
