import Mathlib.Algebra.BigOperators.Group.Finset.Basic
import Mathlib.Algebra.BigOperators.Fin
import Mathlib.Data.Nat.Factorial.Basic
import Mathlib.Data.Finset.Card
import Mathlib.Algebra.Group.Action.Defs
/-
Algorithm R, the replace phase of `Random::multiple` (`Seq.multipleLoop`, Model/Seq.lean), with the draws as arguments: exact counting
of draw outcomes.  Buffers are functions `Fin k → ℕ` (slot ↦ position of the item it holds); `C07.run_from` shows that a run of
`multipleLoop` is `step` applied to the `index` values it drew.  (`Random::single`'s reservoir is Model/Reservoir.lean and Props/C06.)
-/
open Finset

namespace Urandom.Mult
variable {k : ℕ}

/-- buffer after the first k items: slot i holds position i -/
def B₀ : Fin k → ℕ := fun i => i

/-- item `m` arrives, draw `j`: replace slot j if j < k.  In the source this is `let k = self.index(i + 1); buf.get_mut(k)`: its `k` is
the `j` here, and the `k` here is its `amount` (`buf.len()`) -/
def step (m j : ℕ) (B : Fin k → ℕ) : Fin k → ℕ :=
  if h : j < k then Function.update B ⟨j, h⟩ m else B

/-- sum of `w(final buffer)` over all draw tuples for items k .. k+t-1 (last draw outermost) -/
def N : ℕ → ((Fin k → ℕ) → ℕ) → ℕ
  | 0, w => w B₀
  | t+1, w => ∑ j ∈ range (k + t + 1), N t (fun B => w (step (k + t) j B))

/-- the invariant of the replace phase after `t` items beyond the first `k`: the slots hold pairwise distinct positions, all among
the `k + t` seen so far - so the arriving position `k + t` is new (`good_step`), and `N` may be computed over good buffers only
(`N_congr`) -/
def Good (t : ℕ) (B : Fin k → ℕ) : Prop := Function.Injective B ∧ ∀ i, B i < k + t

/-- the set of positions the buffer holds: what `Random::multiple` returns, up to order -/
def bset (B : Fin k → ℕ) : Finset ℕ := univ.image B

theorem good_zero : Good 0 (B₀ : Fin k → ℕ) :=
  ⟨fun a b h => Fin.ext h, fun i => by simp [B₀]⟩

theorem good_step {t : ℕ} {B : Fin k → ℕ} (hB : Good t B) (j : ℕ) : Good (t+1) (step (k+t) j B) := by
  have hlt := hB.2
  unfold step
  split
  · rename_i h
    refine ⟨fun a b hab => ?_, fun i => ?_⟩
    · -- the arriving position `k + t` is above everything the buffer holds
      simp only [Function.update_apply] at hab
      split at hab <;> split at hab
      · simp_all
      · have := hlt b; omega
      · have := hlt a; omega
      · exact hB.1 hab
    · rw [Function.update_apply]; have := hlt i; split <;> omega
  · exact ⟨hB.1, fun i => by have := hlt i; omega⟩

theorem N_congr : ∀ (t : ℕ) (w w' : (Fin k → ℕ) → ℕ), (∀ B, Good t B → w B = w' B) → N t w = N t w' := by
  intro t
  induction t with
  | zero => intro w w' h; exact h _ good_zero
  | succ t ih =>
    intro w w' h
    apply Finset.sum_congr rfl
    intro j _
    apply ih
    intro B hB
    exact h _ (good_step hB j)

theorem N_sum {ι : Type} (s : Finset ι) : ∀ (t : ℕ) (w : ι → (Fin k → ℕ) → ℕ),
    N t (fun B => ∑ x ∈ s, w x B) = ∑ x ∈ s, N t (w x) := by
  intro t
  induction t with
  | zero => intro w; rfl
  | succ t ih =>
    intro w
    simp only [N]
    rw [Finset.sum_comm]
    apply Finset.sum_congr rfl
    intro j _
    exact ih _

theorem N_zero (t : ℕ) : N t (fun _ : Fin k → ℕ => 0) = 0 := by
  simpa using N_sum (∅ : Finset Unit) t (fun _ (_ : Fin k → ℕ) => 0)

/-- the weight that counts the draw tuples ending with content `S` -/
def ind (S : Finset ℕ) (B : Fin k → ℕ) : ℕ := if bset B = S then 1 else 0

theorem bset_B₀ : bset (B₀ : Fin k → ℕ) = range k := by
  ext x
  simp only [bset, B₀, mem_image, mem_univ, true_and, mem_range]
  constructor
  · rintro ⟨i, rfl⟩; exact i.2
  · intro h; exact ⟨⟨x, h⟩, rfl⟩

theorem bset_card {t} {B : Fin k → ℕ} (hB : Good t B) : (bset B).card = k := by
  simp [bset, Finset.card_image_of_injective _ hB.1]

theorem bset_lt {t} {B : Fin k → ℕ} (hB : Good t B) : ∀ x ∈ bset B, x < k + t := by
  intro x hx
  simp only [bset, mem_image, mem_univ, true_and] at hx
  obtain ⟨i, rfl⟩ := hx
  exact hB.2 i

theorem bset_update {t} {B : Fin k → ℕ} (hB : Good t B) (j : Fin k) (m : ℕ) :
    bset (Function.update B j m) = insert m ((bset B).erase (B j)) := by
  ext x
  simp only [bset, mem_image, mem_univ, true_and, mem_insert, mem_erase]
  constructor
  · rintro ⟨i, rfl⟩
    by_cases hi : i = j
    · subst hi; simp
    · right
      rw [Function.update_of_ne hi]
      exact ⟨fun h => hi (hB.1 h), i, rfl⟩
  · rintro (rfl | ⟨hne, i, rfl⟩)
    · exact ⟨j, by simp⟩
    · refine ⟨i, ?_⟩
      have : i ≠ j := fun h => hne (by rw [h])
      rw [Function.update_of_ne this]

/-- counting the slots of a good buffer whose content lies outside `S'` and whose removal leaves exactly `S'`, against the positions
`x < k + t` outside `S'` with `bset B = insert x S'`; `S'` is arbitrary (`N_ind_eq_factorial` takes `S' = S.erase (k + t)`) -/
theorem reindex {t} {B : Fin k → ℕ} (hB : Good t B) (S' : Finset ℕ) :
    (∑ j : Fin k, if (B j ∉ S' ∧ bset B = insert (B j) S') then 1 else 0) =
    ∑ x ∈ range (k + t) \ S', if bset B = insert x S' then 1 else 0 := by
  -- both sides are the sum over `x ∈ bset B \ S'`
  have hL : (∑ j : Fin k, if (B j ∉ S' ∧ bset B = insert (B j) S') then 1 else 0) =
      ∑ x ∈ bset B, if (x ∉ S' ∧ bset B = insert x S') then 1 else 0 := by
    unfold bset
    rw [Finset.sum_image (fun a _ b _ h => hB.1 h)]
  rw [hL]
  simp only [ite_and]
  rw [← Finset.sum_filter, Finset.filter_notMem_eq_sdiff]
  refine Finset.sum_subset (Finset.sdiff_subset_sdiff (fun x hx => mem_range.2 (bset_lt hB x hx)) (subset_refl _)) ?_
  intro x hx hnx
  exact if_neg fun h : bset B = insert x S' => hnx (mem_sdiff.2 ⟨h ▸ mem_insert_self _ _, (mem_sdiff.1 hx).2⟩)

theorem N_const_zero_of {t : ℕ} {w : (Fin k → ℕ) → ℕ} (h : ∀ B, Good t B → w B = 0) : N t w = 0 :=
  (N_congr t w _ h).trans (N_zero t)

/-- one replacement step seen through `ind`: the arriving position `k + t` is new to a good buffer, so slot `j` must give up exactly the
element that `S` lacks -/
theorem ind_step {t : ℕ} {B : Fin k → ℕ} (hB : Good t B) (S : Finset ℕ) (j : ℕ) :
    ind S (step (k + t) j B) =
      if h : j < k then
        (if k + t ∈ S ∧ B ⟨j, h⟩ ∉ S.erase (k + t) ∧ bset B = insert (B ⟨j, h⟩) (S.erase (k + t)) then 1 else 0)
      else ind S B := by
  have hnB : k + t ∉ bset B := fun hx => by have := bset_lt hB _ hx; omega
  unfold step
  split
  · rename_i h
    have hBj : B ⟨j, h⟩ ∈ bset B := by simp [bset]
    unfold ind
    rw [bset_update hB]
    congr 1
    apply propext
    constructor
    · rintro rfl
      have e2 : (insert (k + t) ((bset B).erase (B ⟨j, h⟩))).erase (k + t) = (bset B).erase (B ⟨j, h⟩) :=
        Finset.erase_insert (by simp [mem_erase, hnB])
      exact ⟨mem_insert_self _ _, by rw [e2]; simp, by rw [e2, Finset.insert_erase hBj]⟩
    · rintro ⟨hn, h1, h2⟩
      rw [h2, Finset.erase_insert h1, Finset.insert_erase hn]
  · rfl

/-- for every `k`-subset `S` of the first `k + t` positions exactly `t!` draw tuples leave the buffer holding `S` -/
theorem N_ind_eq_factorial : ∀ (t : ℕ) (S : Finset ℕ), S ⊆ range (k + t) → S.card = k → N t (ind (k := k) S) = t.factorial := by
  intro t
  induction t with
  | zero =>
    intro S hS hc
    have : S = range k := Finset.eq_of_subset_of_card_le (by simpa using hS) (by simp [hc])
    simp [N, ind, bset_B₀, this]
  | succ t ih =>
    intro S hS hc
    replace hS : S ⊆ insert (k + t) (range (k + t)) := by rw [← Finset.range_add_one]; exact hS
    simp only [N]
    -- the draws `j < k + (t + 1)` are the `k` slots and `t + 1` values that replace nothing
    have hge : ∀ x, ¬ k + x < k := fun x => by omega
    rw [Finset.sum_congr rfl fun j _ => N_congr t _ _ fun B hB => ind_step hB S j, Nat.add_assoc, Finset.sum_range_add,
      ← Fin.sum_univ_eq_sum_range (fun j => N t fun B => if h : j < k then _ else _)]
    simp only [hge, dite_false, Fin.is_lt, dite_true, Fin.eta, Finset.sum_const, card_range, smul_eq_mul]
    by_cases hn : k + t ∈ S
    · -- the new item is in `S`: only a slot draw can produce `S`, from a buffer that holds `S` but for one other element
      have hS' : S.erase (k + t) ⊆ range (k + t) := Finset.subset_insert_iff.1 hS
      have hS'c : (S.erase (k + t)).card = k - 1 := by rw [Finset.card_erase_of_mem hn, hc]
      have hk : 0 < k := by rw [← hc]; exact Finset.card_pos.mpr ⟨_, hn⟩
      rw [N_const_zero_of (w := ind S) fun B hB => by
        have : bset B ≠ S := fun e => by have := bset_lt hB _ (e ▸ hn); omega
        simp [ind, this], Nat.mul_zero, Nat.add_zero]
      simp only [hn, true_and]
      rw [← N_sum, N_congr t _ _ (fun B hB => reindex hB _), N_sum]
      have hx : ∀ x ∈ range (k + t) \ S.erase (k + t),
          N t (fun B : Fin k → ℕ => if bset B = insert x (S.erase (k + t)) then 1 else 0) = t.factorial := fun x hx =>
        ih (insert x (S.erase (k + t))) (Finset.insert_subset (mem_sdiff.1 hx).1 hS')
          (by rw [Finset.card_insert_of_notMem (mem_sdiff.1 hx).2, hS'c]; omega)
      rw [Finset.sum_congr rfl hx, Finset.sum_const, Finset.card_sdiff_of_subset hS', hS'c, card_range, Nat.factorial_succ, smul_eq_mul]
      congr 1; omega
    · -- the new item is not in `S`: the `t + 1` draws that replace nothing keep `S`
      simp only [hn, false_and, if_false, N_zero, Finset.sum_const_zero, Nat.zero_add]
      rw [ih S ((Finset.subset_insert_iff_of_notMem hn).1 hS) hc, Nat.factorial_succ]

end Urandom.Mult
