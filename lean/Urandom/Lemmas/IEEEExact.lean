import Urandom.Lemmas.IEEERoundTrip
/-
Exact cases of the IEEE model used by the properties: `x - x`, `x ± 0`, NaN and sign of quotients, `abs`, and that a
product of finite values is finite (`Val.isFinite_iff`, `Val.mulE_isFinite`).
-/
namespace Urandom.IEEE

theorem addFin_comm (s : Bool) (m : ℕ) (e : ℤ) (t : Bool) (n : ℕ) (g : ℤ) :
    Val.addFin s m e t n g = Val.addFin t n g s m e := by
  simp only [Val.addFin, min_comm e g, add_comm, Bool.and_comm s t]

/-- `x - x = +0` exactly (round to nearest) -/
theorem addFin_self_neg (s : Bool) (m : ℕ) (e : ℤ) : Val.addFin s m e (!s) m e = .fin false 0 e := by
  cases s <;> simp [Val.addFin]

theorem addFin_zero_right (s : Bool) (m : ℕ) (e : ℤ) (t : Bool) (z : ℤ) (hz : z ≤ e) :
    Val.addFin s m e t 0 z = if m = 0 then .fin (s && t) 0 z else .fin s (m <<< (e - z).toNat) z := by
  unfold Val.addFin
  simp only [min_eq_right hz]
  by_cases hm : m = 0
  · subst hm; simp
  · -- the aligned sum is `±N` with `N = m <<< _ ≠ 0`
    have hne : m <<< (e - z).toNat ≠ 0 := fun h => hm (Nat.shiftLeft_eq_zero_iff.1 h)
    rw [if_neg hm]
    generalize m <<< (e - z).toNat = N at *
    cases s
    · simp [hne]
    · simp [hne]; omega

theorem canon_emin_le (f : Fmt) (s : Bool) (m : ℕ) (e : ℤ) (h : Canon f (.fin s m e)) : f.emin ≤ e := by
  rcases h.1 with ⟨_, h⟩ | ⟨_, _, h⟩
  · omega
  · exact h

/-- `x + (±0)` rounds to `x`; only the sign of a zero sum depends on the zero -/
theorem round_addFin_zero (f : Fmt) (s : Bool) (m : ℕ) (e : ℤ) (hc : Canon f (.fin s m e)) (t st : Bool) :
    round f (Val.addFin s m e t 0 f.emin) st = .fin (if m = 0 then s && t else s) m e := by
  have hle := canon_emin_le f s m e hc
  rw [addFin_zero_right s m e t f.emin hle]
  split
  · subst m; rw [round_zero, canon_zero hc]
  · -- the sum is `x` presented at `emin`
    have h := round_exact f s m e (e - f.emin).toNat st hc
    rwa [show e - ((e - f.emin).toNat : ℤ) = f.emin by omega] at h

theorem divV_isNaN_iff (f : Fmt) (a b : Val) :
    (divV f a b).1.isNaN = true ↔
      a.isNaN = true ∨ b.isNaN = true ∨ (a.isInf = true ∧ b.isInf = true) ∨ (a.isZero = true ∧ b.isZero = true) := by
  rcases a with _ | s | ⟨s, _ | m, e⟩ <;> rcases b with _ | t | ⟨t, _ | n, g⟩ <;>
    simp [divV, Val.isNaN, Val.isInf, Val.isZero]

theorem divV_sign (f : Fmt) (a b : Val) (h : (divV f a b).1.isNaN = false) :
    (divV f a b).1.sign = (a.sign != b.sign) := by
  rcases a with _ | s | ⟨s, _ | m, e⟩ <;> rcases b with _ | t | ⟨t, _ | n, g⟩ <;>
    simp_all [divV, Val.isNaN, Val.sign]

theorem Val.abs_isNaN (v : Val) : v.abs.isNaN = v.isNaN := by cases v <;> rfl
theorem Val.abs_sign (v : Val) : v.abs.sign = false := by cases v <;> rfl

theorem Val.isFinite_iff {v : Val} : v.isFinite = true ↔ v.isNaN = false ∧ v.isInf = false := by
  cases v <;> simp [Val.isFinite, Val.isNaN, Val.isInf]

theorem Val.mulE_isFinite {a b : Val} (ha : a.isFinite = true) (hb : b.isFinite = true) :
    (a.mulE b).isFinite = true := by
  rcases a with _ | s | ⟨s, m, e⟩ <;> rcases b with _ | t | ⟨t, n, g⟩ <;> simp_all [Val.isFinite, Val.mulE]

theorem decode_abs (f : Fmt) (a : ℕ) : decode f (IEEE.abs f a) = (decode f a).abs := by
  have h1 : (a % 2 ^ (f.eb + f.mb)).testBit (f.eb + f.mb) = false := by
    rw [Nat.testBit_mod_two_pow]; simp
  have h2 : ((a % 2 ^ (f.eb + f.mb)) >>> f.mb) % 2 ^ f.eb = (a >>> f.mb) % 2 ^ f.eb := by
    rw [Nat.shiftRight_eq_div_pow, Nat.shiftRight_eq_div_pow, Nat.add_comm f.eb f.mb, pow_add,
      Nat.mod_mul_right_div_self, Nat.mod_mod]
  have h3 : (a % 2 ^ (f.eb + f.mb)) % 2 ^ f.mb = a % 2 ^ f.mb :=
    Nat.mod_mod_of_dvd _ (pow_dvd_pow 2 (Nat.le_add_left _ _))
  unfold IEEE.abs
  rw [decode_eq, decode_eq, h1, h2, h3]
  split
  · split <;> rfl
  · split <;> rfl

end Urandom.IEEE
