import Urandom.Model.ChaCha
/-
Facts about `Model/ChaCha.lean` that the properties share: the row-wise formulation of the back ends is Bernstein's block function (a
statement about word shuffling, for any quarter round), and counter and stream id are two independent 64-bit views of a state
(`join64` and `lo32` / `hi32` are inverse: get-set, set-get, and each setter leaves the other view alone).  Declared in the namespace of
C02, whose theorems they carry.
-/
namespace Urandom.C02
open Urandom.ChaCha

/-- for any quarter round: quarter round on rows, rotate rows 1/2/3, quarter round, rotate back
(written `rotate_matrix!(a, d, c, b)` in the code) is the column round followed by the diagonal round -/
theorem rowDouble_eq_spec {W : Type} (qr : W → W → W → W → W × W × W × W) (s : St W) :
    (let r := toRows s; rowDouble qr r.1 r.2.1 r.2.2.1 r.2.2.2) = toRows (specDouble qr s) := rfl

theorem ofRows_toRows {W : Type} (s : St W) : ofRows (toRows s) = s := rfl

theorem iter_rowDouble {W : Type} (qr : W → W → W → W → W × W × W × W) (k : Nat) (s : St W) :
    iterN (fun (r : Row W × Row W × Row W × Row W) => rowDouble qr r.1 r.2.1 r.2.2.1 r.2.2.2) k (toRows s)
      = toRows (iterN (specDouble qr) k s) := by
  induction k generalizing s with
  | zero => rfl
  | succ k ih => exact ih (specDouble qr s)  -- goes through because `rowDouble_eq_spec` holds by unfolding

/-- every block the back ends compute is Bernstein's block function of its initial matrix -/
theorem rowBlock_eq_spec (N : Nat) (w : St W32) : rowBlock N w = specBlockOf N w := by
  simp only [rowBlock, specBlockOf, iter_rowDouble, ofRows_toRows]

theorem lo32_join64 (lo hi : W32) : lo32 (join64 lo hi) = lo := by
  unfold lo32 join64
  simp

theorem hi32_join64 (lo hi : W32) : hi32 (join64 lo hi) = hi := by
  ext i hi'
  simp [hi32, join64, BitVec.getLsbD_eq_getElem hi', show 32 + i < 64 by omega]

theorem join64_split (x : BitVec 64) : join64 (lo32 x) (hi32 x) = x := by
  ext i hi'
  by_cases h : i < 32
  · simp [join64, lo32, h, BitVec.getLsbD_eq_getElem hi']
  · simp [join64, lo32, hi32, h, BitVec.getLsbD_eq_getElem hi', show 32 + (i - 32) = i by omega, show i - 32 < 32 by omega]

@[simp] theorem getCounter_setCounter (s : State) (c : BitVec 64) : (s.setCounter c).getCounter = c := join64_split c
@[simp] theorem getStream_setStream (s : State) (c : BitVec 64) : (s.setStream c).getStream = c := join64_split c
@[simp] theorem getStream_setCounter (s : State) (c : BitVec 64) : (s.setCounter c).getStream = s.getStream := rfl
@[simp] theorem getCounter_setStream (s : State) (c : BitVec 64) : (s.setStream c).getCounter = s.getCounter := rfl
@[simp] theorem setCounter_getCounter (s : State) : s.setCounter s.getCounter = s := by
  cases s; simp only [State.setCounter, State.getCounter, lo32_join64, hi32_join64]
@[simp] theorem setStream_getStream (s : State) : s.setStream s.getStream = s := by
  cases s; simp only [State.setStream, State.getStream, lo32_join64, hi32_join64]

theorem addCounter_zero (s : State) : s.addCounter 0#64 = s := by
  rw [State.addCounter, BitVec.add_zero, setCounter_getCounter]

/-- `add_counter` as the specification positions a block: the counter is set, the stream id kept.  The sum is taken on the 64-bit value
(`getCounter_setCounter` holds for every 64-bit value), so the carry out of the low 32-bit word into the high word is right -/
theorem addCounter_eq (s : State) (k : BitVec 64) : s.addCounter k = (s.setCounter (s.getCounter + k)).setStream s.getStream := by
  rw [← getStream_setCounter s (s.getCounter + k), setStream_getStream]; rfl

end Urandom.C02
