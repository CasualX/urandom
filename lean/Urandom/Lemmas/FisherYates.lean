import Mathlib.Data.List.Permutation
import Mathlib.Algebra.BigOperators.Group.Finset.Basic
import Mathlib.Data.Nat.Factorial.Basic
import Mathlib.Data.Finset.Card
/-
Fisher-Yates with the draws as arguments: `fy` and `Draws` mirror `Seq.shuffleLoop` (Model/Seq.lean) with the `index` results
externalised; the bridge is `C05.shuffleLoop_eq_fy`.  On a duplicate-free array (`Inj`, which is `a.toList.Nodup`: `inj_iff_nodup`) the
`n!` valid draw lists and the `n!` orders correspond one to one (`fy_bijective`).
-/
namespace Urandom.FY

variable {α : Type*}

/-- the loop of `Random::shuffle`: `ks` are the successive results of `index(len)` -/
def fy (a : Array α) : Nat → List Nat → Array α
  | len+2, k :: ks => fy (a.swapIfInBounds k (len+1)) (len+1) ks
  | _, _ => a

/-- valid draw lists for a given `len`: one draw `k < i` for i = len, len-1, …, 2 -/
def Draws : Nat → List Nat → Prop
  | len+2, k :: ks => k < len+2 ∧ Draws (len+1) ks
  | _+2, [] => False
  | _, ks => ks = []

theorem swapIfInBounds_perm (a : Array α) (i j : Nat) : (a.swapIfInBounds i j).Perm a := by
  rw [Array.swapIfInBounds_def]
  split
  · split
    · exact Array.swap_perm _ _
    · exact .rfl
  · exact .rfl

theorem fy_size (a : Array α) : ∀ len ks, (fy a len ks).size = a.size := by
  intro len ks
  induction a, len, ks using fy.induct with
  | case1 a len k ks ih => rw [fy, ih, Array.size_swapIfInBounds]
  | case2 a len ks h => rw [fy.eq_2 _ _ _ h]

theorem fy_perm (a : Array α) : ∀ len ks, (fy a len ks).Perm a := by
  intro len ks
  induction a, len, ks using fy.induct with
  | case1 a len k ks ih => rw [fy]; exact ih.trans (swapIfInBounds_perm a _ _)
  | case2 a len ks h => rw [fy.eq_2 _ _ _ h]

theorem fy_frozen (a : Array α) : ∀ len ks i (hi : i < a.size), len ≤ i → Draws len ks →
    (fy a len ks)[i]'(by rw [fy_size]; exact hi) = a[i] := by
  intro len ks
  induction a, len, ks using fy.induct with
  | case1 a len k ks ih =>
    intro i hi hle hd
    simp only [fy]
    rw [ih i (by simpa using hi) (by omega) hd.2, Array.getElem_swapIfInBounds_of_ne_of_ne (by have := hd.1; omega) (by omega)]
  | case2 a len ks h => intro i hi _ _; simp only [fy.eq_2 _ _ _ h]

def Inj (a : Array α) : Prop := ∀ i j (hi : i < a.size) (hj : j < a.size), a[i] = a[j] → i = j

theorem inj_iff_nodup {a : Array α} : Inj a ↔ a.toList.Nodup := by
  rw [List.nodup_iff_injective_getElem]
  constructor
  · intro h i j e
    exact Fin.ext (h i j (by simp) (by simp) (by simpa using e))
  · intro h i j hi hj e
    exact congrArg Fin.val (@h ⟨i, by simpa using hi⟩ ⟨j, by simpa using hj⟩ (by simpa using e))

theorem inj_swap {a : Array α} (h : Inj a) (i j : Nat) : Inj (a.swapIfInBounds i j) :=
  inj_iff_nodup.2 ((swapIfInBounds_perm a i j).toList.nodup_iff.2 (inj_iff_nodup.1 h))

/-- the first draw can be read off the result: it put `a[k]` into slot `len + 1`, which no later step touches -/
theorem fy_first_draw (a : Array α) (len k : Nat) (ks : List Nat) (hlen : len + 2 ≤ a.size) (hd : Draws (len+2) (k :: ks)) :
    (fy a (len+2) (k :: ks))[len+1]'(by rw [fy_size]; omega) = a[k]'(Nat.lt_of_lt_of_le hd.1 hlen) := by
  simp only [fy]
  rw [fy_frozen _ (len+1) ks (len+1) (by simp; omega) (Nat.le_refl _) hd.2,
    Array.getElem_swapIfInBounds_right (Nat.lt_of_lt_of_le hd.1 hlen)]

theorem fy_injective : ∀ (len : Nat) (a : Array α), Inj a → ∀ ks ks', len ≤ a.size →
    Draws len ks → Draws len ks' → fy a len ks = fy a len ks' → ks = ks' := by
  intro len
  induction len using Nat.strongRecOn with
  | _ len ih =>
    intro a hnd ks ks' hlen hd hd' heq
    match len, ks, ks', hd, hd' with
    | 0, _, _, hd, hd' => simp [Draws] at hd hd'; rw [hd, hd']
    | 1, _, _, hd, hd' => simp [Draws] at hd hd'; rw [hd, hd']
    | len+2, k :: ks, k' :: ks', hd, hd' =>
      -- equal results hold equal elements in slot `len + 1`, so `k = k'` on a duplicate-free array; the rest by induction on the
      -- swapped array
      obtain rfl : k = k' := hnd _ _ _ _
        (by rw [← fy_first_draw a len k ks hlen hd, ← fy_first_draw a len k' ks' hlen hd']; simp only [heq])
      congr 1
      exact ih (len+1) (by omega) (a.swapIfInBounds k (len+1)) (inj_swap hnd _ _) ks ks' (by simp; omega) hd.2 hd'.2 heq

def drawSet : Nat → Finset (List Nat)
  | len+2 => (Finset.range (len+2)).biUnion (fun k => (drawSet (len+1)).image (fun ks => k :: ks))
  | _ => {[]}

theorem mem_biUnion_cons {s : Finset Nat} {T : Finset (List Nat)} {l : List Nat} :
    l ∈ (s.biUnion fun k => T.image fun ks => k :: ks) ↔ ∃ k ks, l = k :: ks ∧ k ∈ s ∧ ks ∈ T := by
  simp only [Finset.mem_biUnion, Finset.mem_image]
  exact ⟨fun ⟨k, hk, ks, hks, e⟩ => ⟨k, ks, e.symm, hk, hks⟩, fun ⟨k, ks, e, hk, hks⟩ => ⟨k, hk, ks, hks, e.symm⟩⟩

theorem mem_drawSet : ∀ len ks, ks ∈ drawSet len ↔ Draws len ks := by
  intro len
  induction len using Nat.strongRecOn with
  | _ len ih =>
    intro ks
    match len with
    | 0 => simp [drawSet, Draws]
    | 1 => simp [drawSet, Draws]
    | len+2 =>
      rw [drawSet, mem_biUnion_cons]
      cases ks with
      | nil => exact ⟨fun ⟨_, _, e, _⟩ => (by cases e), fun h => False.elim h⟩
      | cons k ks =>
        exact ⟨fun ⟨_, _, e, hk, hks⟩ => by cases e; exact ⟨Finset.mem_range.1 hk, (ih _ (by omega) _).1 hks⟩,
          fun ⟨hk, hd⟩ => ⟨k, ks, rfl, Finset.mem_range.2 hk, (ih _ (by omega) _).2 hd⟩⟩

theorem card_biUnion_cons (s : Finset Nat) (T : Finset (List Nat)) :
    (s.biUnion fun k => T.image fun ks => k :: ks).card = s.card * T.card := by
  rw [Finset.card_biUnion]
  · simp [Finset.card_image_of_injective _ List.cons_injective]
  · intro x _ y _ hxy
    simp only [Function.onFun, Finset.disjoint_left, Finset.mem_image]
    rintro _ ⟨_, _, rfl⟩ ⟨_, _, h⟩
    exact hxy (List.cons_eq_cons.1 h).1.symm

theorem card_drawSet : ∀ len, (drawSet len).card = len.factorial := by
  intro len
  induction len using Nat.strongRecOn with
  | _ len ih =>
    match len with
    | 0 => rfl
    | 1 => rfl
    | len+2 => rw [drawSet, card_biUnion_cons, ih (len+1) (by omega), Finset.card_range, Nat.factorial_succ (len+1)]

theorem fy_bijective [DecidableEq α] (a : Array α) (hnd : a.toList.Nodup) (σ : List α) (hσ : σ.Perm a.toList) :
    ∃! ks, Draws a.size ks ∧ (fy a a.size ks).toList = σ := by
  -- `fy a` maps the `n!` draw lists injectively into the `n!` orders of `a`, hence onto them
  let f : List Nat → List α := fun ks => (fy a a.size ks).toList
  have hfinj : Set.InjOn f (drawSet a.size) := fun ks hks ks' hks' h =>
    fy_injective a.size a (inj_iff_nodup.2 hnd) ks ks' (le_refl _) ((mem_drawSet _ _).1 hks) ((mem_drawSet _ _).1 hks') (Array.ext' h)
  obtain ⟨ks, hks, hf⟩ := Finset.surjOn_of_injOn_of_card_le f (t := a.toList.permutations.toFinset)
    (fun ks _ => by simpa using (fy_perm a a.size ks).toList) hfinj
    (by rw [card_drawSet, List.toFinset_card_of_nodup (List.nodup_permutations _ hnd), List.length_permutations]; simp)
    (show σ ∈ _ by simpa using hσ)
  refine ⟨ks, ⟨(mem_drawSet _ _).1 hks, hf⟩, ?_⟩
  rintro ks' ⟨hd', hf'⟩
  exact hfinj ((mem_drawSet _ _).2 hd') hks (hf'.trans hf.symm)

end Urandom.FY
